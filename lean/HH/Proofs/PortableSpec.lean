import HH.Proofs.Refine
import HH.Proofs.Bytes
import HH.Proofs.UpdateSpec
/-!
# The portable model computes the HighwayHash specification

Remainder packing, length injection, finalisation and packetisation; `update` itself is in `UpdateSpec`.
-/
namespace HH
namespace P

theorem remainder_eq_spec (bytes : List (BitVec 8)) (h : bytes.length < 32) :
    remainder bytes = Spec.remPacket bytes :=
  remainder_natural.ext Spec.remPacket_natural (by decide) (by decide +kernel) bytes h

theorem rot32Lane_eq_spec (n : Nat) (h : n < 32) (x : BitVec 64) : rot32Lane n x = Spec.rot32by n x := by
  rw [rot32Lane_eq n h, Spec.rot32by, BitVec.rotateLeft_def, BitVec.rotateLeft_def, Nat.mod_eq_of_lt h]
  exact BitVec.or_comm _ _

theorem updateLanes_eq (s : St) (n : Nat) (h : n < 32) :
    updateLanes s n = { s with v0 := s.v0.map (· + ((BitVec.ofNat 64 n <<< 32) + BitVec.ofNat 64 n)), v1 := s.v1.map (Spec.rot32by n) } := by
  have : rot32Lane n = Spec.rot32by n := by funext x; exact rot32Lane_eq_spec n h x
  simp only [updateLanes, this]

theorem permute_eq_spec (v : V4) : permute v = Spec.permute v := rfl

theorem rounds_eq_spec (n : Nat) (s : St) : rounds n s = Spec.rounds n s := by
  induction n generalizing s with
  | zero => rfl
  | succ n ih => simp only [rounds, Spec.rounds, permuteAndUpdate, update_eq_spec, permute_eq_spec, ih]

/-- the 64-bit shift/or formulas of `module_reduction` are the 128-bit polynomial formula of the spec: the two halves
of `(a3' ++ a2) <<< k` are `a3' <<< k ||| a2 >>> (64 - k)` and `a2 <<< k` -/
theorem moduleReduction_eq_spec (a3 a2 a1 a0 : BitVec 64) : moduleReduction a3 a2 a1 a0 = Spec.modred a3 a2 a1 a0 := by
  have hm : (0x3FFFFFFFFFFFFFFFFFFFFFFFFFFFFFFF#128) = 0x3FFFFFFFFFFFFFFF#64 ++ 0xFFFFFFFFFFFFFFFF#64 := by decide
  have ho : a2 &&& 0xFFFFFFFFFFFFFFFF#64 = a2 := BitVec.and_allOnes
  unfold moduleReduction Spec.modred
  dsimp only
  rw [hm, BitVec.and_append, ho]
  simp only [BitVec.setWidth_xor, BitVec.ushiftRight_xor_distrib]
  -- `rw`, not `simp`: the width of `a3' ++ a2` is written 128 here, and `simp` would look for `64 + 64`
  rw [Bits.lo_shiftLeft_append, Bits.lo_shiftLeft_append, Bits.hi_shiftLeft_append (w := 64) _ _ 1 (by decide),
    Bits.hi_shiftLeft_append (w := 64) _ _ 2 (by decide), BitVec.setWidth_append_eq_right, Bits.hi_append]

theorem finalize64_eq (x : State) : finalize64 x = out64 (finalizeCommon 4 x) := rfl
theorem finalize128_eq (x : State) : finalize128 x = out128 (finalizeCommon 6 x) := rfl
theorem finalize256_eq (x : State) : finalize256 x = out256 (finalizeCommon 10 x) := rfl

def specUpd (s : St) (pkt : List (BitVec 8)) : St := Spec.update s (Spec.lanesOf pkt)

theorem updPacket_eq_spec : updPacket = specUpd := by
  funext s pkt; simp only [updPacket, specUpd, update_eq_spec, dataToLanes_eq_spec]

/-- what the specification does with the state and the bytes that packetisation leaves -/
def specFin (a : St × List (BitVec 8)) : St := if a.2.length = 0 then a.1 else Spec.updateRemainder a.1 a.2

/-- the two loops consume fuel in step -/
theorem absorbAll_eq (f : Nat) (s : St) (d : List (BitVec 8)) (h : d.length ≤ f) :
    Spec.absorbAll (f + 1) s d = specFin (absorb specUpd f s d) := by
  fun_induction absorb specUpd f s d with
  | case1 s d => exact if_neg (by omega)
  | case2 f s d h32 ih => exact (if_pos h32).trans (ih (by simp only [List.length_drop]; omega))
  | case3 f s d h32 => exact if_neg h32

theorem finAbs_eq_spec (n : Nat) (a : St × List (BitVec 8)) (h : a.2.length < 32) :
    finAbs n a = Spec.rounds n (specFin a) := by
  simp only [finAbs, specFin, rounds_eq_spec]
  by_cases h0 : a.2.length = 0
  · simp [h0]
  · simp only [ne_eq, h0, not_false_eq_true, ↓reduceIte, Spec.updateRemainder, update_eq_spec, dataToLanes_eq_spec,
      remainder_eq_spec _ h, updateLanes_eq _ _ h]

theorem new_abs (k : V4) : ((new k).st, (new k).buffer.asSlice) = (Spec.reset k, []) := by
  have hr : Spec.rot32 = fun x => x.rotateLeft 32 := rfl
  simp [Pkt.asSlice, new, Spec.reset, Pkt.default, V4.xor, Spec.init0, Spec.init1, init0, init1, hr]

theorem new_inv (k : V4) : (new k).buffer.Inv := Pkt.default_inv

/-- the core of C01: after any append on a fresh hasher the finalisation prologue followed by
`n` rounds is the specification's `rounds n (process k data)` -/
theorem process_eq_spec (n : Nat) (k : V4) (d : List (BitVec 8)) :
    finalizeCommon n (append (new k) d) = Spec.rounds n (Spec.process k d) := by
  have a : ((append (new k) d).st, (append (new k) d).buffer.asSlice) =
        AbsAppend updPacket ((new k).st, (new k).buffer.asSlice) d ∧ (append (new k) d).buffer.Inv :=
    refines.append ((new k).st, (new k).buffer) d (new_inv k)
  rw [finalizeCommon_abs n _ a.2, a.1, new_abs, updPacket_eq_spec, finAbs_eq_spec n _ (AbsAppend_pending_lt _ _ _), Spec.process,
    absorbAll_eq d.length _ _ (Nat.le_refl _)]
  simp only [AbsAppend, List.length_nil, Nat.zero_add, List.nil_append]

end P
end HH
