import HH.Avx
import HH.Proofs.RemLanes
import HH.Proofs.Refine
/-!
# The AVX2 model refines the portable model (step lemmas, valid for ALL register states)
-/
namespace HH
namespace Avx
open X86

theorem shufImm_eq : shufImm = 177 := rfl

theorem r256ToV4_map2_add (a b : R256) : r256ToV4 (add256_epi64 a b) = V4.add (r256ToV4 a) (r256ToV4 b) := by
  simp [r256ToV4, add256_epi64, R256.map2, V4.add, V4.zipWith]

theorem r256ToV4_xor (a b : R256) : r256ToV4 (xor256 a b) = V4.xor (r256ToV4 a) (r256ToV4 b) := by
  simp [r256ToV4, xor256, R256.map2, V4.xor, V4.zipWith]

theorem r256ToV4_mul (a b : R256) :
    r256ToV4 (mulLow32 a (shrBy32 b)) = V4.zipWith P.mul32 (r256ToV4 a) (r256ToV4 b) := by
  simp [r256ToV4, mulLow32, shrBy32, mul256_epu32, srli256_epi64, R256.map2, R256.map, mul_epu32_srli, V4.zipWith]

theorem zipperMerge_eq (v : R256) :
    zipperMerge v =
      ⟨mk (P.zipHi (hi64 v.lo) (lo64 v.lo)) (P.zipLo (hi64 v.lo) (lo64 v.lo)),
       mk (P.zipHi (hi64 v.hi) (lo64 v.hi)) (P.zipLo (hi64 v.hi) (lo64 v.hi))⟩ := by
  have h : set256_epi64x 0x070806090D0A040B#64 0x000F010E05020C03#64 0x070806090D0A040B#64 0x000F010E05020C03#64
      = ⟨set_epi64x 0x070806090D0A040B#64 0x000F010E05020C03#64, set_epi64x 0x070806090D0A040B#64 0x000F010E05020C03#64⟩ := rfl
  simp only [zipperMerge, shuffle256_epi8, R256.map2, h, zipper_shuffle]

theorem update_refines (r : Regs) (packet : R256) :
    toPortable (update r packet) = P.update (toPortable r) (r256ToV4 packet) := by
  simp only [update, toPortable, P.update, zipperMerge_eq, P.zipperAdd, r256ToV4, add256_epi64, xor256, mulLow32, shrBy32,
    mul256_epu32, srli256_epi64, R256.map2, R256.map, mul_epu32_srli, V4.add, V4.xor, V4.zipWith, lo64_add, hi64_add,
    lo64_xor, hi64_xor, lo64_mk, hi64_mk]

theorem loadu_lanes (pkt : List (BitVec 8)) : r256ToV4 (loadu_si256 pkt 0) = P.dataToLanes pkt := by
  simp [r256ToV4, loadu_si256, loadu_si128, ofBytes16, P.dataToLanes]

theorem updPacket_refines (r : Regs) (pkt : List (BitVec 8)) :
    toPortable (updPacket r pkt) = P.updPacket (toPortable r) pkt := by
  simp only [updPacket, update_refines, loadu_lanes, P.updPacket]

theorem permute_eq (v : R256) : permute v = ⟨shuffle_epi32 v.hi 177, shuffle_epi32 v.lo 177⟩ := by
  simp only [permute, permutevar8x32_epi32, set256_epi64x, R256.lane32, lane32, mk, BitVec.reduceAppend, BitVec.reduceExtractLsb',
    BitVec.reduceToNat, Nat.reduceMul, Nat.reduceLT, ↓reduceIte, Nat.reduceSub, Nat.reduceMod, shuffle_epi32, Nat.reduceShiftRight]

theorem permute_lanes (v : R256) : r256ToV4 (permute v) = P.permute (r256ToV4 v) := by
  simp only [permute_eq, shuffle_epi32_rot, r256ToV4, P.permute, lo64_mk, hi64_mk]

theorem permuteAndUpdate_refines (r : Regs) :
    toPortable (permuteAndUpdate r) = P.permuteAndUpdate (toPortable r) := by
  simp only [permuteAndUpdate, update_refines, P.permuteAndUpdate, permute_lanes]
  rfl

theorem rounds_refines (n : Nat) (r : Regs) : toPortable (rounds n r) = P.rounds n (toPortable r) := by
  induction n generalizing r with
  | zero => rfl
  | succ n ih => rw [rounds, P.rounds, ih, permuteAndUpdate_refines]

theorem r256_roundtrip (v : V4) : r256ToV4 (v4ToR256 v) = v := by
  simp [r256ToV4, v4ToR256, set256_epi64x]

theorem v4ToR256_r256ToV4 (r : R256) : v4ToR256 (r256ToV4 r) = r := by
  simp [r256ToV4, v4ToR256, set256_epi64x, mk_lo_hi]

theorem toPortable_fromPortable (p : St) : toPortable (fromPortable p) = p := by
  simp [toPortable, fromPortable, r256_roundtrip]

theorem fromPortable_toPortable (r : Regs) : fromPortable (toPortable r) = r := by
  simp [toPortable, fromPortable, v4ToR256_r256ToV4]

theorem new_refines (k : V4) : toPortable (new k).r = (P.new k).st := by
  simp [new, toPortable, P.new, rotateBy32, shufImm_eq, shuffle256_epi32, R256.map, shuffle_epi32_rot, mul0Init, mul1Init,
    P.init0, P.init1, V4.zipWith, V4.map, r256ToV4, set256_epi64x, xor256, R256.map2]
  refine ⟨⟨?_, ?_, ?_, ?_⟩, ⟨?_, ?_, ?_, ?_⟩⟩ <;> exact BitVec.xor_comm _ _

theorem sizeLane (n : Nat) : lane32 (cvtsi64_si128 (BitVec.ofNat 64 n)) 0 = BitVec.ofNat 32 n := by
  simp only [cvtsi64_si128, lane32_0, lo64_mk]
  apply BitVec.eq_of_toNat_eq
  simp [BitVec.toNat_ofNat]

/-- a lane of `_mm_maskload_epi32` under the mask `size > t` -/
theorem maskLane_cmpgt (mem : List (BitVec 8)) (off n t : Nat) (hn : n < 2 ^ 31) (ht : t < 2 ^ 31) :
    maskLane mem off (cmpgt32 (BitVec.ofNat 32 n) (BitVec.ofNat 32 t)) = if t < n then le32 (mem.drop off) else 0 := by
  have h := slt_ofNat t n ht hn
  unfold maskLane cmpgt32
  rw [h]
  by_cases c : t < n <;> simp [c]

theorem maskload_cmpgt (mem : List (BitVec 8)) (off n : Nat) (t3 t2 t1 t0 : BitVec 32) :
    maskload_epi32 mem off (cmpgt_epi32 (set1_epi32 (BitVec.ofNat 32 n)) (set_epi32 t3 t2 t1 t0)) =
      mk32 (maskLane mem (off + 12) (cmpgt32 (BitVec.ofNat 32 n) t3)) (maskLane mem (off + 8) (cmpgt32 (BitVec.ofNat 32 n) t2))
        (maskLane mem (off + 4) (cmpgt32 (BitVec.ofNat 32 n) t1)) (maskLane mem off (cmpgt32 (BitVec.ofNat 32 n) t0)) := by
  simp only [maskload_epi32, cmpgt_epi32, set1_mk32, set_epi32, lane32_mk32]

theorem remainder_eq (buf : List (BitVec 8)) (n : Nat) (h : n < 32) :
    remainder buf n = ⟨(remRegs buf n).2, (remRegs buf n).1⟩ := by
  have hn : n < 2 ^ 31 := Nat.lt_trans h (by decide)
  unfold remainder remRegs loadGroups
  simp only [broadcastd_epi32, castsi256_si128, sizeLane n, BitVec.ofNat_eq_ofNat, maskload_cmpgt,
    fun off t => maskLane_cmpgt buf off n t hn, Nat.reducePow, Nat.reduceLT, inserti128_si256, castsi128_si256, Nat.reduceMod, ↓reduceIte,
    bit16 h, stragglers_end]
  by_cases h16 : 16 ≤ n
  · have c4 : 19 < n ↔ 4 ≤ n - 16 := by omega
    have c5 : 23 < n ↔ 8 ≤ n - 16 := by omega
    have c6 : 27 < n ↔ 12 ≤ n - 16 := by omega
    have c7 : ¬ 31 < n := by omega
    simp only [h16, ↓reduceIte, c4, c5, c6, c7, loadu_si128, List.drop_zero]
  · have c3 : ¬ 15 < n := by omega
    simp only [h16, ↓reduceIte, c3, Nat.lt_iff_add_one_le, Nat.reduceAdd, Nat.zero_add, cvtsi64_si128, List.drop_zero,
      BitVec.ofNat_eq_ofNat]

theorem remainder_refines (buf : List (BitVec 8)) (n : Nat) (hb : buf.length = 32) (h : n < 32) :
    r256ToV4 (remainder buf n) = P.dataToLanes (P.remainder (buf.take n)) := by
  rw [remainder_eq buf n h]; exact remRegs_lanes buf n (by omega) h

theorem size256_eq (n : Nat) :
    broadcastd_epi32 (cvtsi64_si128 (BitVec.ofNat 64 n)) =
      ⟨set1_epi32 (lane32 (cvtsi64_si128 (BitVec.ofNat 64 n)) 0), set1_epi32 (lane32 (cvtsi64_si128 (BitVec.ofNat 64 n)) 0)⟩ := rfl

theorem tipLane : lane32 (cvtsi32_si128 32) 0 = 32#32 := by decide

theorem rotate_lanes (v : BitVec 128) (n : Nat) (h : n < 32) :
    or_si128 (sllv_epi32 v (set1_epi32 (BitVec.ofNat 32 n)))
             (srlv_epi32 v (sub_epi32 (set1_epi32 32#32) (set1_epi32 (BitVec.ofNat 32 n))))
      = mk (P.rot32Lane n (hi64 v)) (P.rot32Lane n (lo64 v)) := by
  have hn : (BitVec.ofNat 32 n).toNat = n := Nat.mod_eq_of_lt (Nat.lt_trans h (by decide))
  have hs : (32#32 - BitVec.ofNat 32 n).toNat = 32 - n := by
    rw [BitVec.toNat_sub, hn, ← Nat.sub_add_comm (Nat.le_of_lt (Nat.lt_trans h (by decide)))]
    exact Bits.wrap_sub (Nat.le_of_lt h) (by decide)
  simp only [sllv_epi32, srlv_epi32, sub_epi32, set1_mk32, lane32_mk32, sllv32_eq, srlv32_eq, hn, hs, or_mk32]
  exact rot_lanes v n h

theorem updateRemainder_refines (x : State) (hx : x.buffer.Inv) :
    toPortable (updateRemainder x) =
      P.update (P.updateLanes (toPortable x.r) x.buffer.idx) (P.dataToLanes (P.remainder (x.buffer.buf.take x.buffer.idx))) := by
  obtain ⟨hi, hb⟩ := hx
  simp only [updateRemainder, update_refines, remainder_refines _ _ hb hi, Pkt.len]
  congr 1
  simp only [toPortable, P.updateLanes, broadcastd_epi32, add256_epi64, sllv256_epi32, srlv256_epi32, sub256_epi32,
    or256, R256.map2, sizeLane, tipLane, vsize_add _ _ (Nat.lt_trans hi (by decide)), rotate_lanes _ _ hi, r256ToV4, lo64_mk, hi64_mk, V4.map]

theorem modularReduction_lanes (x init : R256) :
    lo64 (modularReduction x init).lo = (P.moduleReduction (hi64 x.lo) (lo64 x.lo) (hi64 init.lo) (lo64 init.lo)).1 ∧
    hi64 (modularReduction x init).lo = (P.moduleReduction (hi64 x.lo) (lo64 x.lo) (hi64 init.lo) (lo64 init.lo)).2 ∧
    lo64 (modularReduction x init).hi = (P.moduleReduction (hi64 x.hi) (lo64 x.hi) (hi64 init.hi) (lo64 init.hi)).1 ∧
    hi64 (modularReduction x init).hi = (P.moduleReduction (hi64 x.hi) (lo64 x.hi) (hi64 init.hi) (lo64 init.hi)).2 := by
  have h62 : ¬ (62 : Nat) > 63 := by decide
  have h63 : ¬ (63 : Nat) > 63 := by decide
  have a := modLane (hi64 x.lo) (lo64 x.lo) (hi64 init.lo) (lo64 init.lo)
  have b := modLane (hi64 x.hi) (lo64 x.hi) (hi64 init.hi) (lo64 init.hi)
  simp only [modularReduction, andNot, andnot256, xor256, add256_epi64, srli256_epi64, slli256_epi64, slli256_si256, cmpeq256_epi64,
    unpacklo256_epi64, setzero256, R256.map2, R256.map, lo64_xor, hi64_xor, lo64_unpacklo, hi64_unpacklo, lo64_zero,
    lo64_andnot, hi64_andnot, lo64_slli _ _ h63, hi64_slli _ _ h63, lo64_slli8, hi64_slli8, lo64_cmpeq_self,
    lo64_srli _ _ h62, lo64_srli _ _ h63, lo64_add, hi64_add, add_self_shl, shl1_shl1]
  exact ⟨a.1, a.2, b.1, b.2⟩

theorem refines : Refines toPortable updPacket rounds (fun r p => updateRemainder ⟨r, p⟩) :=
  ⟨updPacket_refines, rounds_refines, fun r p hp => updateRemainder_refines ⟨r, p⟩ hp⟩

def abs (x : State) : St × List (BitVec 8) := (toPortable x.r, x.buffer.asSlice)

theorem finalizeCommon_refines (n : Nat) (x : State) (hx : x.buffer.Inv) : toPortable (finalizeCommon n x) = P.finAbs n (abs x) :=
  refines.finalizeCommon n x.r x.buffer hx

theorem finalize64_refines (x : State) (hx : x.buffer.Inv) : finalize64 x = P.out64 (P.finAbs 4 (abs x)) := by
  rw [← finalizeCommon_refines 4 x hx]
  simp only [finalize64, storel_epi64, castsi256_si128, add256_epi64, R256.map2, lo64_add, P.out64, toPortable, r256ToV4]
  ac_rfl

theorem finalize128_refines (x : State) (hx : x.buffer.Inv) : finalize128 x = P.out128 (P.finAbs 6 (abs x)) := by
  rw [← finalizeCommon_refines 6 x hx]
  simp only [finalize128, storeu_si128, castsi256_si128, extracti128_si256, Nat.reduceMod, ↓reduceIte, add256_epi64, R256.map2, lo64_add,
    hi64_add, P.out128, toPortable, r256ToV4, Prod.mk.injEq]
  constructor <;> ac_rfl

theorem finalize256_refines (x : State) (hx : x.buffer.Inv) : finalize256 x = P.out256 (P.finAbs 10 (abs x)) := by
  rw [← finalizeCommon_refines 10 x hx]
  simp only [finalize256, storeu_si256, modularReduction_lanes, P.out256, toPortable, r256ToV4, add256_epi64, R256.map2, lo64_add,
    hi64_add]

end Avx
end HH
