import HH.Proofs.X86Lemmas
import HH.Proofs.Bytes
/-!
# The padded last packet, as the SIMD back ends build it

`remRegs buf n` is the register pair every SIMD `remainder` computes for the first `n < 32` bytes of `buf`.
`remRegs_lanes` ties it to `PortableHash::remainder` once, through the same packet as a list of 4-byte groups (`remPkt`)
and `Natural.ext`; each back end then shows, following its branches with `n` symbolic, that its registers are these
(AVX: its two halves; Wasm, whose halves are swapped: its four 64-bit lanes).
-/
namespace HH

/-! The arithmetic of every `remainder`: for `n < 32` the test `size & 16` says `16 ≤ n`; the `n % 4` stragglers, and from 16
bytes on the last four bytes, end at `n`. -/

theorem bit16 {n : Nat} (h : n < 32) : (n / 16) % 2 = 1 ↔ 16 ≤ n := by omega

theorem stragglers_end (n : Nat) : n - n % 4 + n % 4 = n := Nat.sub_add_cancel (Nat.mod_le n 4)

theorem last4_end {n : Nat} (h : 16 ≤ n) : n - n % 4 + n % 4 - 4 + 4 = n := by
  rw [stragglers_end, Nat.sub_add_cancel (Nat.le_trans (by decide) h)]

namespace X86

theorem le32_nil : le32 [] = 0 := by decide

theorem group_take (l : List (BitVec 8)) (n j : Nat) :
    (if j + 4 ≤ n then le32 ((l.take n).drop j) else 0) = if j + 4 ≤ n then le32 (l.drop j) else 0 := by
  split
  · exact le32_drop_take l ‹_›
  · rfl

/-- the three bytes `unordered_load3` reads -/
def load3 (src : List (BitVec 8)) : List (BitVec 8) :=
  if src.isEmpty then [] else [src.getD 0 0, src.getD ((src.length % 4) >>> 1) 0, src.getD (src.length % 4 - 1) 0]

theorem unorderedLoad3_eq (src : List (BitVec 8)) : unorderedLoad3 src = join32 0 (le32 (load3 src)) := by
  unfold unorderedLoad3 load3
  split
  · decide
  · exact load3_3 _ _ _

/-- what `load_multiple_of_four` returns for the `len < 16` bytes at `mem[off ..]`: their whole 4-byte groups -/
def loadGroups (mem : List (BitVec 8)) (off len : Nat) : BitVec 128 :=
  mk32 0 (if 12 ≤ len then le32 (mem.drop (off + 8)) else 0) (if 8 ≤ len then le32 (mem.drop (off + 4)) else 0)
    (if 4 ≤ len then le32 (mem.drop off) else 0)

/-- `remainder` of the first `n < 32` bytes of `buf` as the registers `(packetH, packetL)`, the way `src/x86/sse.rs`
builds them -/
def remRegs (buf : List (BitVec 8)) (n : Nat) : BitVec 128 × BitVec 128 :=
  if 16 ≤ n then (insert_epi32 (loadGroups buf 16 (n - 16)) (le32 ((buf.take n).drop (n - 4))) 3, ofBytes16 buf)
  else (mk 0 (unorderedLoad3 ((buf.take n).drop (n - n % 4))), loadGroups buf 0 n)

/-! The same packet as a list: eight groups, each padded to four bytes. -/

def pad4 (l : List (BitVec 8)) : List (BitVec 8) := [l.getD 0 0, l.getD 1 0, l.getD 2 0, l.getD 3 0]

def remGroup (bs : List (BitVec 8)) (k : Nat) : List (BitVec 8) :=
  if 16 ≤ bs.length ∧ k = 7 then bs.drop (bs.length - 4)
  else if bs.length < 16 ∧ k = 4 then load3 (bs.drop (bs.length - bs.length % 4))
  else if 4 * k + 4 ≤ bs.length then bs.drop (4 * k) else []

/-- nested to the right: evaluating `drop` through appends nested to the left is far slower -/
def remPkt (bs : List (BitVec 8)) : List (BitVec 8) :=
  pad4 (remGroup bs 0) ++ (pad4 (remGroup bs 1) ++ (pad4 (remGroup bs 2) ++ (pad4 (remGroup bs 3) ++
  (pad4 (remGroup bs 4) ++ (pad4 (remGroup bs 5) ++ (pad4 (remGroup bs 6) ++ pad4 (remGroup bs 7)))))))

theorem load3_map (f : BitVec 8 → BitVec 8) (h0 : f 0 = 0) (l : List (BitVec 8)) : load3 (l.map f) = (load3 l).map f := by
  simp only [load3, List.isEmpty_map, List.length_map, getD_map0 f h0, apply_ite (List.map f), List.map_cons, List.map_nil]

theorem remPkt_natural : Natural remPkt := by
  intro f h0 l
  have hg (k : Nat) : remGroup (l.map f) k = (remGroup l k).map f := by
    simp only [remGroup, List.length_map, apply_ite (List.map f), ← load3_map f h0, List.map_drop, List.map_nil]
  simp only [remPkt, hg, pad4, getD_map0 f h0, List.map_append, List.map_cons, List.map_nil]

theorem remainder_eq_remPkt (bs : List (BitVec 8)) (h : bs.length < 32) : P.remainder bs = remPkt bs :=
  P.remainder_natural.ext remPkt_natural (by decide) (by decide +kernel) bs h

theorem remRegs_lanes (buf : List (BitVec 8)) (n : Nat) (hn : n ≤ buf.length) (h : n < 32) :
    (⟨lo64 (remRegs buf n).2, hi64 (remRegs buf n).2, lo64 (remRegs buf n).1, hi64 (remRegs buf n).1⟩ : V4)
      = P.dataToLanes (P.remainder (buf.take n)) := by
  have hl : (buf.take n).length = n := by rw [List.length_take]; omega
  have e (bs : List (BitVec 8)) : P.dataToLanes (remPkt bs) =
      ⟨join32 (le32 (remGroup bs 1)) (le32 (remGroup bs 0)), join32 (le32 (remGroup bs 3)) (le32 (remGroup bs 2)),
       join32 (le32 (remGroup bs 5)) (le32 (remGroup bs 4)), join32 (le32 (remGroup bs 7)) (le32 (remGroup bs 6))⟩ := by
    simp only [P.dataToLanes, remPkt, le64_join, pad4, List.cons_append, List.nil_append, List.drop_succ_cons, List.drop_zero,
      Nat.reduceAdd, le32, List.getD_cons_zero, List.getD_cons_succ]
  rw [remainder_eq_remPkt _ (by rw [hl]; exact h), e]
  simp only [remGroup, hl, Nat.reduceEqDiff, and_true, and_false, ↓reduceIte, apply_ite le32, le32_nil, group_take]
  unfold remRegs loadGroups
  by_cases h16 : 16 ≤ n
  · have n16 : ¬ n < 16 := by omega
    have c4 : 4 ≤ n - 16 ↔ 4 * 4 + 4 ≤ n := by omega
    have c5 : 8 ≤ n - 16 ↔ 4 * 5 + 4 ≤ n := by omega
    have c6 : 12 ≤ n - 16 ↔ 4 * 6 + 4 ≤ n := by omega
    have a0 : 4 * 0 + 4 ≤ n := by omega
    have a1 : 4 * 1 + 4 ≤ n := by omega
    have a2 : 4 * 2 + 4 ≤ n := by omega
    simp only [h16, n16, ↓reduceIte, c4, c5, c6, a0, a1, a2, ofBytes16_mk32, insert3, lo64_mk32, hi64_mk32, List.drop_zero, Nat.reduceAdd,
      Nat.reduceMul]
  · have n16 : n < 16 := by omega
    have a5 : ¬ 4 * 5 + 4 ≤ n := by omega
    have a6 : ¬ 4 * 6 + 4 ≤ n := by omega
    have a7 : ¬ 4 * 7 + 4 ≤ n := by omega
    simp only [h16, n16, ↓reduceIte, a5, a6, a7, unorderedLoad3_eq, BitVec.ofNat_eq_ofNat, join32_zero, lo64_mk, hi64_mk, lo64_mk32, hi64_mk32,
      List.drop_zero, Nat.reduceAdd, Nat.reduceMul]

end X86
end HH
