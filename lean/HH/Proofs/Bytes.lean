import HH.Portable
import HH.Spec
import HH.Proofs.Buffer
/-!
# Byte lists: little-endian reads, functions that only move bytes, the lemmas under the generated checkpoint instances

* `le64` / `le32` read the first eight / four bytes only, so reads commute with `take`.
* A function that copies input bytes to fixed places and pads with zeros (`PortableHash::remainder`, `Spec.remPacket`,
  the SIMD last packet) commutes with every byte map that fixes 0 (`Natural`); two such functions agree on all inputs
  shorter than `N ≤ 256` once they agree on `[1], [1, 2], …` (`Natural.ext`), which the kernel evaluates.
* The generated `checkpoint#_eq` / `fromCheckpoint#_eq` end in `rfl` against a 164-entry literal whose bytes are free
  variables; the elaborator caches nothing there, so `P.checkpoint_mk` and `P.eq_fromCheckpoint` are shaped to let it
  walk each list once.
-/
namespace HH

def Natural (F : List (BitVec 8) → List (BitVec 8)) : Prop :=
  ∀ f : BitVec 8 → BitVec 8, f 0 = 0 → ∀ l, F (l.map f) = (F l).map f

def labels (n : Nat) : List (BitVec 8) := (List.range n).map fun i => BitVec.ofNat 8 (i + 1)

/-- label `i + 1` goes to byte `i`, 0 stays -/
theorem labels_map (bs : List (BitVec 8)) (h : bs.length < 256) :
    (labels bs.length).map (fun b => (0 :: bs).getD b.toNat 0) = bs := by
  apply List.ext_getElem
  · simp only [labels, List.length_map, List.length_range]
  · intro i _ h2
    have e : (BitVec.ofNat 8 (i + 1)).toNat = i + 1 := Nat.mod_eq_of_lt (by omega)
    simp only [labels, List.getElem_map, List.getElem_range, e, List.getD_eq_getElem?_getD, List.getElem?_cons_succ,
      List.getElem?_eq_getElem h2, Option.getD_some]

theorem Natural.ext {F G : List (BitVec 8) → List (BitVec 8)} (hF : Natural F) (hG : Natural G) {N : Nat} (hN : N ≤ 256)
    (h : ∀ n < N, F (labels n) = G (labels n)) (bs : List (BitVec 8)) (hb : bs.length < N) : F bs = G bs := by
  rw [← labels_map bs (Nat.lt_of_lt_of_le hb hN), hF _ rfl, hG _ rfl, h _ hb]

theorem getD_map0 (f : BitVec 8 → BitVec 8) (h0 : f 0 = 0) (l : List (BitVec 8)) (i : Nat) :
    (l.map f).getD i 0 = f (l.getD i 0) := by
  rw [List.getD_eq_getElem?_getD, List.getD_eq_getElem?_getD, List.getElem?_map, ← Option.getD_map f, h0]

theorem zipWith_snd {α β : Type} (a : List α) (b : List β) : List.zipWith (fun _ y => y) a b = b.take a.length := by
  induction a generalizing b with
  | nil => simp
  | cons x a ih => cases b <;> simp [ih]

theorem le64_take (l : List (BitVec 8)) (n : Nat) (h : 8 ≤ n) : le64 (l.take n) = le64 l := by
  simp (disch := omega) only [le64, List.getD_eq_getElem?_getD, List.getElem?_take_of_lt]

theorem le32_take (l : List (BitVec 8)) (n : Nat) (h : 4 ≤ n) : le32 (l.take n) = le32 l := by
  simp (disch := omega) only [le32, List.getD_eq_getElem?_getD, List.getElem?_take_of_lt]

theorem le64_drop_take (l : List (BitVec 8)) {n off : Nat} (h : off + 8 ≤ n) :
    le64 ((l.take n).drop off) = le64 (l.drop off) := by
  rw [List.drop_take, le64_take _ _ (by omega)]

theorem le32_drop_take (l : List (BitVec 8)) {n off : Nat} (h : off + 4 ≤ n) :
    le32 ((l.take n).drop off) = le32 (l.drop off) := by
  rw [List.drop_take, le32_take _ _ (by omega)]

/-- the little-endian words of a byte list, read in one pass (`le64 (c.drop (8 * i))` walks to each word from the start) -/
def le64s : List (BitVec 8) → List (BitVec 64)
  | b0 :: b1 :: b2 :: b3 :: b4 :: b5 :: b6 :: b7 :: t => le64 [b0, b1, b2, b3, b4, b5, b6, b7] :: le64s t
  | _ => []

theorem le64_of_le64s {c : List (BitVec 8)} {i : Nat} {w : BitVec 64} (h : (le64s c)[i]? = some w) :
    le64 (c.drop (8 * i)) = w := by
  fun_induction le64s c generalizing i with
  | case1 b0 b1 b2 b3 b4 b5 b6 b7 t ih =>
    cases i with
    | zero => exact Option.some.inj h
    | succ i => exact ih h
  | case2 c hne => cases h

theorem flatMap_append_eq_foldr {α β : Type} (f : α → List β) (l : List α) (r : List β) :
    l.flatMap f ++ r = l.foldr (fun a r => f a ++ r) r := by
  induction l with
  | nil => rfl
  | cons a l ih => rw [List.flatMap_cons, List.append_assoc, ih, List.foldr_cons]

namespace P

theorem dataToLanes_eq_spec (d : List (BitVec 8)) : dataToLanes d = Spec.lanesOf d := by
  simp only [dataToLanes, Spec.lanesOf, le64_take _ 8 (Nat.le_refl 8)]

/-- the lanes are folded from the right: against a literal list, `flatMap .. ++ (.. ++ ..)` pushes every byte through each
enclosing `++` again -/
theorem checkpoint_mk (s : St) (buf : List (BitVec 8)) (n : Nat) (hb : buf.length = 32) (hn : n ≤ 32) :
    checkpoint ⟨s, ⟨buf, n⟩⟩ =
      (lanes16 s).foldr (fun w r => toLE64 w ++ r) (buf.take n ++ (zeros (32 - n) ++ toLE32 (BitVec.ofNat 32 n))) := by
  rw [checkpoint, List.append_assoc, List.append_assoc, flatMap_append_eq_foldr]
  simp only [Pkt.asSlice, Pkt.len, List.length_take, hb, Nat.min_eq_left hn]

theorem fromCheckpoint_st (c : List (BitVec 8)) (s : St) (hl : lanes16 s = (le64s c).take 16) : (fromCheckpoint c).st = s := by
  have w (i : Fin 16) : le64 (c.drop (8 * i)) = (lanes16 s)[i.val]'i.isLt :=
    le64_of_le64s (by rw [← List.getElem?_take_of_lt i.isLt, ← hl]; exact List.getElem?_eq_getElem i.isLt)
  obtain ⟨⟨a0, a1, a2, a3⟩, ⟨a4, a5, a6, a7⟩, ⟨a8, a9, a10, a11⟩, ⟨a12, a13, a14, a15⟩⟩ := s
  simp only [fromCheckpoint, v4OfBytes, dataToLanes, List.drop_drop, St.mk.injEq, V4.mk.injEq]
  exact ⟨⟨w 0, w 1, w 2, w 3⟩, ⟨w 4, w 5, w 6, w 7⟩, ⟨w 8, w 9, w 10, w 11⟩, ⟨w 12, w 13, w 14, w 15⟩⟩

/-- no hypothesis on the length of `c`: without a count field (`c.length ≤ 160`) the count reads as 0 -/
theorem fromCheckpoint_buffer (c : List (BitVec 8)) (k : Nat) (h : min (le32 (c.drop 160)).toNat 31 = k) :
    (fromCheckpoint c).buffer = ⟨(c.drop 128).take k ++ zeros (32 - k), k⟩ := by
  have hlen : (((c.drop 128).take 32).take k).length = k := by
    by_cases hc : c.length ≤ 160
    · rw [List.drop_of_length_le hc] at h
      subst h; rfl
    · simp only [List.length_take, List.length_drop]; omega
  have e : ((c.drop 128).take 32).take k = (c.drop 128).take k := by
    rw [List.take_take, Nat.min_eq_left (by omega)]
  rw [fromCheckpoint, h, Pkt.fill_default _ (by omega), hlen, e]

theorem eq_fromCheckpoint (c : List (BitVec 8)) (k : Nat) (x : State) (hl : lanes16 x.st = (le64s c).take 16)
    (hb : x.buffer = ⟨(c.drop 128).take k ++ zeros (32 - k), k⟩) (h : min (le32 (c.drop 160)).toNat 31 = k) :
    fromCheckpoint c = x := by
  obtain ⟨s, b⟩ := x
  exact congr (congrArg State.mk (fromCheckpoint_st c s hl)) ((fromCheckpoint_buffer c k h).trans hb.symm)

theorem remainder_natural : Natural remainder := by
  intro f h0 l
  have hg (k i : Nat) : (List.drop k (List.map f l)).getD i 0 = f ((List.drop k l).getD i 0) := by
    rw [← List.map_drop, getD_map0 f h0]
  simp only [remainder, zeros, zipWith_snd, apply_ite (List.map f), List.map_append, List.map_take, List.map_drop, List.map_replicate,
    List.map_set, h0, hg, List.length_map, List.length_drop, List.length_take, List.length_append, List.length_replicate]

end P

theorem Spec.remPacket_natural : Natural Spec.remPacket := by
  intro f h0 l
  simp only [Spec.remPacket, List.length_map, List.map_map, getD_map0 f h0]
  apply List.map_congr_left
  intro i _
  simp only [Function.comp_apply, apply_ite f, h0]

end HH
