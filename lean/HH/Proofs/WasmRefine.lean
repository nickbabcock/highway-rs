import HH.WasmB
import HH.Proofs.RemLanes
import HH.Proofs.Refine
/-!
# The Wasm SIMD model refines the portable model (step lemmas, valid for ALL register states)

`lo r` / `hi r` are the halves in the crate's reversed lane convention (`lo` = wasm lane 1).
-/
namespace HH
namespace WasmB
open Wasm

/-! bridge to the lane kit of `X86Lemmas` (a register is a `BitVec 128` in both models): wasm lane 0 is the
low half, and the crate's `V2x64U` keeps its *high* word there -/
theorem lane64_0 (r : BitVec 128) : lane64 r 0 = X86.lo64 r := (X86.lo64_extract r).symm
theorem lane64_1 (r : BitVec 128) : lane64 r 1 = X86.hi64 r := (X86.hi64_extract r).symm
theorem u64x2_eq (a0 a1 : BitVec 64) : u64x2 a0 a1 = X86.mk a1 a0 := rfl
theorem u32x4_eq (a0 a1 a2 a3 : BitVec 32) : u32x4 a0 a1 a2 a3 = X86.mk32 a3 a2 a1 a0 := rfl
theorem lane32_eq (r : BitVec 128) (i : Nat) : lane32 r i = X86.lane32 r i := rfl
theorem lo_eq (r : BitVec 128) : lo r = X86.hi64 r := lane64_1 r
theorem hi_eq (r : BitVec 128) : hi r = X86.lo64 r := lane64_0 r
theorem v2new_eq (h l : BitVec 64) : v2new h l = X86.mk l h := rfl

@[simp] theorem lo_new (h l : BitVec 64) : lo (v2new h l) = l := by rw [lo_eq, v2new_eq, X86.hi64_mk]
@[simp] theorem hi_new (h l : BitVec 64) : hi (v2new h l) = h := by rw [hi_eq, v2new_eq, X86.lo64_mk]
theorem new_hi_lo (r : BitVec 128) : v2new (hi r) (lo r) = r := by rw [lo_eq, hi_eq, v2new_eq, X86.mk_lo_hi]
@[simp] theorem lo_xor (a b : BitVec 128) : lo (v128_xor a b) = lo a ^^^ lo b := by
  simp only [lo_eq]; exact X86.hi64_xor a b
@[simp] theorem hi_xor (a b : BitVec 128) : hi (v128_xor a b) = hi a ^^^ hi b := by
  simp only [hi_eq]; exact X86.lo64_xor a b
@[simp] theorem lo_add (a b : BitVec 128) : lo (u64x2_add a b) = lo a + lo b := by
  simp only [lo_eq, u64x2_add, u64x2_eq, X86.hi64_mk, lane64_1]
@[simp] theorem hi_add (a b : BitVec 128) : hi (u64x2_add a b) = hi a + hi b := by
  simp only [hi_eq, u64x2_add, u64x2_eq, X86.lo64_mk, lane64_0]

theorem rotateBy32_lanes (v : BitVec 128) : rotateBy32 v = v2new ((hi v).rotateLeft 32) ((lo v).rotateLeft 32) := by
  have : rotateBy32 v = X86.shuffle_epi32 v 177 := by
    simp only [rotateBy32, u32x4_shuffle, sel32, u32x4_eq, lane32_eq, X86.shuffle_epi32, Nat.reduceLT, ↓reduceIte, Nat.reduceShiftRight, Nat.reduceMod]
  rw [this, X86.shuffle_epi32_rot, v2new_eq, lo_eq, hi_eq]

theorem mask_lanes : u32x4 0xFFFFFFFF 0 0xFFFFFFFF 0 = X86.mk 0xFFFFFFFF#64 0xFFFFFFFF#64 := by decide

theorem mulEpu32_lanes (a b : BitVec 128) :
    mulEpu32 a b = X86.mk ((X86.hi64 a &&& 0xFFFFFFFF#64) * (X86.hi64 b &&& 0xFFFFFFFF#64)) ((X86.lo64 a &&& 0xFFFFFFFF#64) * (X86.lo64 b &&& 0xFFFFFFFF#64)) := by
  simp only [mulEpu32, mask_lanes, u64x2_mul, u64x2_eq, v128_and, lane64_0, lane64_1, X86.lo64_and, X86.hi64_and, X86.lo64_mk, X86.hi64_mk]

theorem mul_rot (a b : BitVec 128) :
    mulEpu32 a (rotateBy32 b) = v2new (P.mul32 (hi a) (hi b)) (P.mul32 (lo a) (lo b)) := by
  rw [rotateBy32_lanes, mulEpu32_lanes]
  simp only [v2new_eq, lo_eq, hi_eq, X86.lo64_mk, X86.hi64_mk, P.mul32, X86.rot32_low]

theorem srli_lanes (b : BitVec 128) (k : Nat) : srliEpi64 b k = X86.mk (X86.hi64 b >>> (k % 64)) (X86.lo64 b >>> (k % 64)) := by
  simp only [srliEpi64, u64x2_shr, u64x2_eq, lane64_0, lane64_1]

theorem mul_srli (a b : BitVec 128) :
    mulEpu32 a (srliEpi64 b 32) = v2new (P.mul32 (hi a) (hi b)) (P.mul32 (lo a) (lo b)) := by
  rw [srli_lanes, mulEpu32_lanes]
  simp only [v2new_eq, lo_eq, hi_eq, X86.lo64_mk, X86.hi64_mk, P.mul32, Nat.reduceMod, X86.shr32_low]

theorem byteOf_lanes (v : BitVec 128) (i : Nat) (h : i < 16) :
    Spec.byteOf (X86.hi64 v) (X86.lo64 v) i = byteAt v (if i < 8 then i + 8 else i - 8) := by
  unfold Spec.byteOf byteAt
  split
  · rw [X86.extract_hi64 v _ _ (by omega)]; congr 1; omega
  · exact X86.extract_lo64 v _ _ (by omega)

theorem zipper_lanes (v : BitVec 128) :
    zipperMerge v = v2new (P.zipHi (hi v) (lo v)) (P.zipLo (hi v) (lo v)) := by
  rw [← P.zipLo_eq, ← P.zipHi_eq, v2new_eq]
  refine (X86.cat16 fun i => selByte v v ([3, 12, 2, 5, 1, 14, 0, 15, 11, 4, 10, 13, 6, 9, 7, 8].getD i 0)).trans ?_
  simp only [Spec.zipper, Spec.zipTbl, List.map_cons, List.map_nil, List.take, List.drop, lo_eq, hi_eq, byteOf_lanes,
    selByte, List.getD_cons_zero, List.getD_cons_succ, Nat.reduceLT, ↓reduceIte, Nat.reduceAdd, Nat.reduceSub]

def lanesOfRegs (pH pL : BitVec 128) : V4 := ⟨lo pL, hi pL, lo pH, hi pH⟩

theorem update_refines (r : Regs) (pH pL : BitVec 128) :
    toPortable (update r pH pL) = P.update (toPortable r) (lanesOfRegs pH pL) := by
  simp only [update, toPortable, P.update, lanesOfRegs, zipper_lanes, mul_rot, mul_srli, lo_add, hi_add, lo_xor, hi_xor,
    lo_new, hi_new, V4.add, V4.xor, V4.zipWith, P.zipperAdd]

theorem updPacket_refines (r : Regs) (pkt : List (BitVec 8)) :
    toPortable (updPacket r pkt) = P.updPacket (toPortable r) pkt := by
  simp only [updPacket, update_refines, P.updPacket]
  congr 1
  simp [lanesOfRegs, P.dataToLanes]

theorem permuteAndUpdate_refines (r : Regs) :
    toPortable (permuteAndUpdate r) = P.permuteAndUpdate (toPortable r) := by
  simp only [permuteAndUpdate, update_refines, P.permuteAndUpdate]
  congr 1
  simp [lanesOfRegs, rotateBy32_lanes, P.permute, toPortable]

theorem rounds_refines (n : Nat) (r : Regs) : toPortable (rounds n r) = P.rounds n (toPortable r) := by
  induction n generalizing r with
  | zero => rfl
  | succ n ih => rw [rounds, P.rounds, ih, permuteAndUpdate_refines]

theorem toPortable_fromPortable (p : St) : toPortable (fromPortable p) = p := by
  simp [toPortable, fromPortable]

theorem fromPortable_toPortable (r : Regs) : fromPortable (toPortable r) = r := by
  simp [toPortable, fromPortable, new_hi_lo]

theorem new_refines (k : V4) : toPortable (new k).r = (P.new k).st := by
  simp [new, toPortable, P.new, rotateBy32_lanes, init0L, init0H, init1L, init1H, P.init0, P.init1, V4.zipWith, V4.map]
  refine ⟨⟨?_, ?_, ?_, ?_⟩, ⟨?_, ?_, ?_, ?_⟩⟩ <;> exact BitVec.xor_comm _ _

theorem lo_srli (a : BitVec 128) (k : Nat) (hk : k < 64) : lo (srliEpi64 a k) = lo a >>> k := by
  simp only [lo_eq, srli_lanes, X86.hi64_mk, Nat.mod_eq_of_lt hk]
theorem hi_srli (a : BitVec 128) (k : Nat) (hk : k < 64) : hi (srliEpi64 a k) = hi a >>> k := by
  simp only [hi_eq, srli_lanes, X86.lo64_mk, Nat.mod_eq_of_lt hk]
theorem lo_slli8 (a : BitVec 128) : lo (slli8 a) = 0 := by
  simp only [slli8, u64x2_shuffle, sel64, Nat.reduceLT, ↓reduceIte, Nat.reduceSub, u64x2_eq, lo_eq, X86.hi64_mk, lane64_0, X86.lo64_mk]
theorem hi_slli8 (a : BitVec 128) : hi (slli8 a) = lo a := by
  simp only [slli8, u64x2_shuffle, sel64, Nat.reduceLT, ↓reduceIte, Nat.reduceSub, u64x2_eq, hi_eq, lo_eq, X86.lo64_mk, lane64_1]
theorem lo_andNot (a b : BitVec 128) : lo (andNot a b) = ~~~(lo b) &&& lo a := by
  rw [lo_eq, lo_eq, lo_eq, andNot, v128_andnot, BitVec.and_comm]; exact X86.hi64_andnot b a
theorem hi_andNot (a b : BitVec 128) : hi (andNot a b) = ~~~(hi b) &&& hi a := by
  rw [hi_eq, hi_eq, hi_eq, andNot, v128_andnot, BitVec.and_comm]; exact X86.lo64_andnot b a
theorem signBit_lo : lo (i32x4_replace_lane 1 (v2new 0 0) 0x80000000#32) = 0 := by decide
theorem signBit_hi : hi (i32x4_replace_lane 1 (v2new 0 0) 0x80000000#32) = 0x8000000000000000#64 := by decide

theorem v2new_mk32 (h l : BitVec 64) :
    v2new h l = X86.mk32 ((l >>> 32).setWidth 32) (l.setWidth 32) ((h >>> 32).setWidth 32) (h.setWidth 32) := by
  rw [v2new_eq, X86.mk_as_mk32]
theorem mask_lo : v2new 0 0xFFFFFFFF#64 = X86.mk32 0 0xFFFFFFFF#32 0 0 := by decide
theorem zero_mk32 : v2new 0 0 = X86.mk32 0 0 0 0 := by decide
theorem slli8_mk32 (d c b a : BitVec 32) : slli8 (X86.mk32 d c b a) = X86.mk32 0 0 d c := by
  apply X86.ext128
  · have := hi_slli8 (X86.mk32 d c b a)
    simp only [hi_eq, lo_eq] at this
    rw [this, X86.hi64_mk32, X86.lo64_mk32]
  · have := lo_slli8 (X86.mk32 d c b a)
    simp only [lo_eq] at this
    rw [this, X86.hi64_mk32]; exact X86.join32_zero.symm
theorem and_mk32 (d c b a d' c' b' a' : BitVec 32) :
    v128_and (X86.mk32 d c b a) (X86.mk32 d' c' b' a') = X86.mk32 (d &&& d') (c &&& c') (b &&& b') (a &&& a') := X86.and_mk32 ..
theorem or_mk32 (d c b a d' c' b' a' : BitVec 32) :
    v128_or (X86.mk32 d c b a) (X86.mk32 d' c' b' a') = X86.mk32 (d ||| d') (c ||| c') (b ||| b') (a ||| a') := X86.or_mk32 ..
theorem replace1 (d c b a x : BitVec 32) : i32x4_replace_lane 1 (X86.mk32 d c b a) x = X86.mk32 d c x a := by
  simp only [i32x4_replace_lane, lane32_eq, u32x4_eq, X86.lane32_mk32, ↓reduceIte, Nat.reduceEqDiff]
theorem le64_lo (l : List (BitVec 8)) : (le64 l).setWidth 32 = le32 l := by rw [X86.le64_join, X86.join32_lo]
theorem le64_hi (l : List (BitVec 8)) : ((le64 l) >>> 32).setWidth 32 = le32 (l.drop 4) := by rw [X86.le64_join, X86.join32_hi]
theorem z32a : ((0 : BitVec 64) >>> 32).setWidth 32 = (0 : BitVec 32) := by decide
theorem z32b : (0 : BitVec 64).setWidth 32 = (0 : BitVec 32) := by decide

open X86 in
theorem loadMultipleOfFour_eq (bytes : List (BitVec 8)) (h : bytes.length < 16) :
    loadMultipleOfFour bytes =
      X86.mk32 (if 8 ≤ bytes.length then le32 (bytes.drop 4) else 0) (if 4 ≤ bytes.length then le32 bytes else 0) 0
        (if 12 ≤ bytes.length then le32 (bytes.drop 8) else 0) := by
  unfold loadMultipleOfFour
  simp only [mask_lo, zero_mk32]
  by_cases h8 : bytes.length ≥ 8
  · have h4 : 4 ≤ bytes.length := by omega
    by_cases h12 : 12 ≤ bytes.length
    · have : bytes.length - 8 ≥ 4 := by omega
      simp only [BitVec.ofNat_eq_ofNat, h8, h12, h4, this, ↓reduceIte, List.length_drop, slli8_mk32, v2new_mk32, u32x4_eq, and_mk32, or_mk32, le64_lo, le64_hi,
        BitVec.zero_ushiftRight, BitVec.setWidth_zero, BitVec.and_zero, BitVec.zero_or, BitVec.or_zero, and_ones32]
    · have : ¬ bytes.length - 8 ≥ 4 := by omega
      simp only [BitVec.ofNat_eq_ofNat, h8, h12, h4, this, ↓reduceIte, List.length_drop, v2new_mk32, le64_lo, le64_hi, BitVec.zero_ushiftRight, BitVec.setWidth_zero]
  · have h12 : ¬ 12 ≤ bytes.length := by omega
    by_cases h4 : bytes.length ≥ 4
    · simp only [BitVec.ofNat_eq_ofNat, h8, h12, h4, ↓reduceIte, u32x4_eq, and_mk32, or_mk32, BitVec.and_zero, BitVec.zero_or, and_ones32]
    · simp only [BitVec.ofNat_eq_ofNat, h8, h12, h4, ↓reduceIte]

open X86 in
theorem remainder_refines (bytes : List (BitVec 8)) (h : bytes.length < 32) :
    lanesOfRegs (remainder bytes).1 (remainder bytes).2 = P.dataToLanes (P.remainder bytes) := by
  have := remRegs_lanes bytes bytes.length (Nat.le_refl _) h
  rw [List.take_length] at this
  rw [← this]
  unfold remainder remRegs loadGroups
  have h32 : ¬ bytes.length > 32 := by omega
  by_cases h16 : 16 ≤ bytes.length
  · simp only [h32, h16, ↓reduceIte, stragglers_end, lanesOfRegs, loadMultipleOfFour_eq (bytes.drop 16) (by rw [List.length_drop]; omega),
      List.length_drop, List.take_length, v2new_mk32, replace1, lo_eq, hi_eq, ofBytes16_mk32, insert3, lo64_mk32, hi64_mk32, le64_lo, le64_hi,
      List.drop_drop, Nat.reduceAdd]
  · simp only [h32, h16, ↓reduceIte, lanesOfRegs, loadMultipleOfFour_eq bytes (by omega), List.take_length,
      v2new_eq, lo_eq, hi_eq, X86.lo64_mk, X86.hi64_mk, lo64_mk32, hi64_mk32, Nat.zero_add, List.drop_zero]

theorem vsize_add (v : BitVec 128) (n : Nat) (h : n < 32) :
    u64x2_add v (u32x4 (BitVec.ofNat 32 n) (BitVec.ofNat 32 n) (BitVec.ofNat 32 n) (BitVec.ofNat 32 n)) =
      v2new (hi v + ((BitVec.ofNat 64 n <<< 32) + BitVec.ofNat 64 n)) (lo v + ((BitVec.ofNat 64 n <<< 32) + BitVec.ofNat 64 n)) := by
  rw [v2new_eq, hi_eq, lo_eq, ← X86.vsize_add v n (Nat.lt_trans h (by decide))]
  simp only [u64x2_add, u64x2_eq, lane64_0, lane64_1, X86.add_epi64]
  rfl

theorem or_eq (a b : BitVec 128) : v128_or a b = X86.or_si128 a b := rfl

theorem rotate32By_lanes (v : BitVec 128) (n : Nat) (h : n < 32) :
    rotate32By v n = v2new (P.rot32Lane n (hi v)) (P.rot32Lane n (lo v)) := by
  have hn : n % 32 = n := Nat.mod_eq_of_lt h
  -- Wasm shift counts are taken modulo 32: at `n = 0` the right shift is by 0, not by 32 as on the other back ends
  simp only [rotate32By, u32x4_shl, u32x4_shr, hn, Bits.wrap_sub (Nat.le_of_lt h) (by decide : 32 < 2 ^ 32), Bits.shl_or_shr_mod _ n h, u32x4_eq, lane32_eq, or_eq, X86.or_mk32, v2new_eq, lo_eq,
    hi_eq]
  exact X86.rot_lanes v n h

theorem updateRemainder_refines (x : State) (hx : x.buffer.Inv) :
    toPortable (updateRemainder x) =
      P.update (P.updateLanes (toPortable x.r) x.buffer.idx) (P.dataToLanes (P.remainder (x.buffer.buf.take x.buffer.idx))) := by
  obtain ⟨hi', hb⟩ := hx
  have hl : x.buffer.asSlice.length < 32 := Pkt.asSlice_length ⟨hi', hb⟩ ▸ hi'
  simp only [updateRemainder, update_refines, remainder_refines _ hl, Pkt.len]
  congr 1
  simp only [toPortable, P.updateLanes, vsize_add _ _ hi', rotate32By_lanes _ _ hi', lo_new, hi_new, V4.map]

theorem modularReduction_lanes (x init : BitVec 128) :
    lo (modularReduction x init) = (P.moduleReduction (hi x) (lo x) (hi init) (lo init)).1 ∧
    hi (modularReduction x init) = (P.moduleReduction (hi x) (lo x) (hi init) (lo init)).2 := by
  simp only [modularReduction, lo_xor, hi_xor, lo_slli8, hi_slli8, lo_srli _ 62 (by decide), lo_srli _ 63 (by decide),
    lo_andNot, hi_andNot, lo_add, hi_add, X86.add_self_shl, X86.shl1_shl1, signBit_lo, signBit_hi]
  exact X86.modLane (hi x) (lo x) (hi init) (lo init)

theorem refines : Refines toPortable updPacket rounds (fun r p => updateRemainder ⟨r, p⟩) :=
  ⟨updPacket_refines, rounds_refines, fun r p hp => updateRemainder_refines ⟨r, p⟩ hp⟩

def abs (x : State) : St × List (BitVec 8) := (toPortable x.r, x.buffer.asSlice)

theorem finalizeCommon_refines (n : Nat) (x : State) (hx : x.buffer.Inv) : toPortable (finalizeCommon n x) = P.finAbs n (abs x) :=
  refines.finalizeCommon n x.r x.buffer hx

theorem finalize64_refines (x : State) (hx : x.buffer.Inv) : finalize64 x = P.out64 (P.finAbs 4 (abs x)) := by
  rw [← finalizeCommon_refines 4 x hx]
  simp only [finalize64, ← lo.eq_1, lo_add, P.out64, toPortable]
  ac_rfl

theorem finalize128_refines (x : State) (hx : x.buffer.Inv) : finalize128 x = P.out128 (P.finAbs 6 (abs x)) := by
  rw [← finalizeCommon_refines 6 x hx]
  simp only [finalize128, ← lo.eq_1, ← hi.eq_1, lo_add, hi_add, P.out128, toPortable, Prod.mk.injEq]
  constructor <;> ac_rfl

theorem finalize256_refines (x : State) (hx : x.buffer.Inv) : finalize256 x = P.out256 (P.finAbs 10 (abs x)) := by
  rw [← finalizeCommon_refines 10 x hx]
  simp only [finalize256, P.out256, toPortable, ← lo.eq_1, ← hi.eq_1, modularReduction_lanes, lo_add, hi_add]

end WasmB
end HH
