import HH.Packet
/-!
# Buffering theorem, generic in `upd`

One proof serves the five textually duplicated `append`s: for every state whose packet satisfies
`Inv` (32-byte buffer, `idx < 32`),

* `absP (appendG upd x d) = AbsAppend upd (absP x) d`  and `Inv` is preserved, where
  `absP x = (lanes, buf.take idx)` forgets the stale tail of the buffer and `AbsAppend`
  re-packetises `pending ++ data` with the `chunks_exact` recursion;
* `AbsAppend (AbsAppend a x) y = AbsAppend a (x ++ y)`;
* a map of lane states that commutes with the packet step commutes with `AbsAppend` (what carries the theorem from a
  SIMD back end's registers to portable lanes).
-/
namespace HH
variable {S : Type}

/-- abstract state: lane state + pending bytes.  It is `(x.1, x.2.asSlice)`. -/
def absP (x : S × Pkt) : S × List (BitVec 8) := (x.1, x.2.buf.take x.2.idx)

/-- abstract append: packetise `pending ++ data` -/
def AbsAppend (upd : S → List (BitVec 8) → S) (a : S × List (BitVec 8)) (data : List (BitVec 8)) :
    S × List (BitVec 8) :=
  absorb upd (a.2.length + data.length) a.1 (a.2 ++ data)

/-- the invariant of `HashPacket` between calls -/
def Pkt.Inv (p : Pkt) : Prop := p.idx < 32 ∧ p.buf.length = 32

namespace Pkt
variable {p : Pkt}

theorem default_inv : Pkt.default.Inv := ⟨by decide, rfl⟩

theorem asSlice_length (hp : p.Inv) : p.asSlice.length = p.idx := by
  simp only [asSlice, List.length_take, hp.2]; have := hp.1; omega

theorem setTo_asSlice (p : Pkt) (d : List (BitVec 8)) : (p.setTo d).asSlice = d := List.take_left

theorem setTo_inv (hb : p.buf.length = 32) {d : List (BitVec 8)} (hd : d.length < 32) : (p.setTo d).Inv :=
  ⟨hd, by simp only [setTo, List.length_append, List.length_drop, hb]; omega⟩

theorem fill_lt (hp : p.Inv) {d : List (BitVec 8)} (h : p.idx + d.length < 32) :
    ∃ q, p.fill d = (q, none) ∧ q.asSlice = p.asSlice ++ d ∧ q.Inv := by
  refine ⟨_, if_pos (by rw [hp.2]; omega), ?_, by omega, ?_⟩
  · have : (p.buf.take p.idx ++ d).length = p.idx + d.length := by simp [hp.2]; have := hp.1; omega
    simp only [asSlice]; rw [← this, List.take_left]
  · simp [hp.2]; have := hp.1; omega

theorem fill_ge (hp : p.Inv) {d : List (BitVec 8)} (h : 32 ≤ p.idx + d.length) :
    ∃ q, p.fill d = (q, some (d.drop (32 - p.idx))) ∧ q.buf = p.asSlice ++ d.take (32 - p.idx) ∧ q.buf.length = 32 := by
  refine ⟨_, (if_neg (by rw [hp.2]; omega)).trans (by rw [hp.2]), ?_, ?_⟩
  · simp only [asSlice]; rw [List.drop_of_length_le (by rw [hp.2]; omega), List.append_nil]
  · simp [hp.2]; have := hp.1; omega

/-- filling the empty packet with fewer than 32 bytes (what `from_checkpoint` does) -/
theorem fill_default (D : List (BitVec 8)) (h : D.length < 32) :
    Pkt.default.fill D = (⟨D ++ zeros (32 - D.length), D.length⟩, none) := by
  have hgt : 32 - 0 > D.length := by omega
  simp only [Pkt.fill, Pkt.default, zeros, List.length_replicate, hgt, ↓reduceIte, List.take_zero, List.nil_append,
    Nat.zero_add, List.drop_replicate]

end Pkt

/-! `appendG` and `AbsAppend` only ever run the `chunks_exact` loop `absorb` with the length of the data as fuel.
`packetise` names that; for it fuel is dealt with once (`absorb_fuel`), after which it has a recursion equation over whole
packets and facts about it go by `packet_induction`.  (`absorb_map` and `P.absorbAll_eq` compare two loops that burn fuel
in step, and go by `fun_induction absorb`.) -/

def packetise (upd : S → List (BitVec 8) → S) (s : S) (d : List (BitVec 8)) : S × List (BitVec 8) :=
  absorb upd d.length s d

section
variable (upd : S → List (BitVec 8) → S)

theorem absorb_short (f : Nat) (s : S) (d : List (BitVec 8)) (h : d.length < 32) : absorb upd f s d = (s, d) := by
  cases f with
  | zero => rfl
  | succ f => exact if_neg (Nat.not_le_of_lt h)

theorem absorb_fuel (f g : Nat) (s : S) (d : List (BitVec 8)) (hf : d.length ≤ f) (hg : d.length ≤ g) :
    absorb upd f s d = absorb upd g s d := by
  fun_induction absorb upd f s d generalizing g with
  | case1 s d => exact (absorb_short upd g s d (by omega)).symm
  | case2 f s d h32 ih =>
    obtain ⟨g, rfl⟩ : ∃ g', g = g' + 1 := ⟨g - 1, by omega⟩
    rw [absorb, if_pos h32]
    exact ih g (by simp only [List.length_drop]; omega) (by simp only [List.length_drop]; omega)
  | case3 f s d h32 => exact (absorb_short upd g s d (by omega)).symm

theorem packetise_short (s : S) (d : List (BitVec 8)) (h : d.length < 32) : packetise upd s d = (s, d) :=
  absorb_short upd _ s d h

theorem packetise_packet (s : S) {p : List (BitVec 8)} (d : List (BitVec 8)) (hp : p.length = 32) :
    packetise upd s (p ++ d) = packetise upd (upd s p) d := by
  have e : (p ++ d).length = (31 + d.length) + 1 := by rw [List.length_append, hp]; omega
  rw [packetise, e, absorb, if_pos (by omega), List.take_left' hp, List.drop_left' hp]
  exact absorb_fuel upd _ _ _ _ (by omega) (Nat.le_refl _)

theorem packet_induction {motive : List (BitVec 8) → Prop} (short : ∀ d, d.length < 32 → motive d)
    (packet : ∀ p d, p.length = 32 → motive d → motive (p ++ d)) (d : List (BitVec 8)) : motive d := by
  induction hn : d.length using Nat.strongRecOn generalizing d with
  | _ n ih =>
    by_cases h : d.length < 32
    · exact short d h
    · rw [← List.take_append_drop 32 d]
      exact packet _ _ (by simp only [List.length_take]; omega) (ih _ (by simp only [List.length_drop]; omega) _ rfl)

theorem packetise_rem_lt (s : S) (d : List (BitVec 8)) : (packetise upd s d).2.length < 32 := by
  induction d using packet_induction generalizing s with
  | short d h => rw [packetise_short upd s d h]; exact h
  | packet p d hp ih => rw [packetise_packet upd s d hp]; exact ih _

theorem packetise_append (s : S) (xs ys : List (BitVec 8)) :
    packetise upd s (xs ++ ys) = packetise upd (packetise upd s xs).1 ((packetise upd s xs).2 ++ ys) := by
  induction xs using packet_induction generalizing s with
  | short d h => rw [packetise_short upd s d h]
  | packet p d hp ih => rw [List.append_assoc, packetise_packet upd s _ hp, packetise_packet upd s _ hp]; exact ih _

theorem AbsAppend_eq (a : S × List (BitVec 8)) (d : List (BitVec 8)) : AbsAppend upd a d = packetise upd a.1 (a.2 ++ d) := by
  rw [AbsAppend, packetise, List.length_append]

end

theorem appendG_abs (upd : S → List (BitVec 8) → S) (x : S × Pkt) (data : List (BitVec 8))
    (hx : x.2.Inv) :
    absP (appendG upd x data) = AbsAppend upd (absP x) data ∧ (appendG upd x data).2.Inv := by
  obtain ⟨s, p⟩ := x
  have hp : p.Inv := hx
  show ((appendG upd (s, p) data).1, (appendG upd (s, p) data).2.asSlice) = AbsAppend upd (s, p.asSlice) data ∧ _
  have hl := Pkt.asSlice_length hp
  have hi := hp.1
  rw [AbsAppend_eq]
  unfold appendG
  by_cases h0 : p.idx = 0
  · -- empty buffer: whole packets straight from `data`
    have e : p.asSlice = [] := List.eq_nil_of_length_eq_zero (hl.trans h0)
    simp only [Pkt.isEmpty, h0, beq_self_eq_true, ↓reduceIte, Pkt.setTo_asSlice, e, List.nil_append]
    exact ⟨rfl, Pkt.setTo_inv hp.2 (packetise_rem_lt upd _ _)⟩
  · simp only [Pkt.isEmpty, beq_iff_eq, h0, ↓reduceIte]
    by_cases hf : p.idx + data.length < 32
    · -- the chunk does not complete the packet
      obtain ⟨q, hq, hs, hqi⟩ := Pkt.fill_lt hp hf
      simp only [hq, hs, hqi, and_true]
      rw [packetise_short _ _ _ (by simp only [List.length_append, hl]; omega)]
    · -- its head completes the packet, whole packets are taken from the tail
      obtain ⟨q, hq, hb, hbl⟩ := Pkt.fill_ge hp (d := data) (by omega)
      have e : p.asSlice ++ data = (p.asSlice ++ data.take (32 - p.idx)) ++ data.drop (32 - p.idx) := by
        rw [List.append_assoc, List.take_append_drop]
      simp only [hq, Pkt.inner, hb, Pkt.setTo_asSlice]
      rw [e, packetise_packet upd s _ (hb ▸ hbl)]
      exact ⟨rfl, Pkt.setTo_inv hbl (packetise_rem_lt upd _ _)⟩

theorem AbsAppend_assoc (upd : S → List (BitVec 8) → S) (a : S × List (BitVec 8)) (d1 d2 : List (BitVec 8)) :
    AbsAppend upd (AbsAppend upd a d1) d2 = AbsAppend upd a (d1 ++ d2) := by
  rw [AbsAppend_eq upd a (d1 ++ d2), ← List.append_assoc, packetise_append, ← AbsAppend_eq upd a d1, ← AbsAppend_eq]

theorem AbsAppend_nil (upd : S → List (BitVec 8) → S) (a : S × List (BitVec 8)) (h : a.2.length < 32) :
    AbsAppend upd a [] = a := by
  rw [AbsAppend_eq, List.append_nil, packetise_short upd _ _ h]

theorem AbsAppend_pending_lt (upd : S → List (BitVec 8) → S) (a : S × List (BitVec 8)) (d : List (BitVec 8)) :
    (AbsAppend upd a d).2.length < 32 :=
  AbsAppend_eq upd a d ▸ packetise_rem_lt upd _ _

theorem foldl_appendG_abs (upd : S → List (BitVec 8) → S) (chunks : List (List (BitVec 8))) :
    ∀ (x : S × Pkt), x.2.Inv →
      absP (chunks.foldl (appendG upd) x) = AbsAppend upd (absP x) chunks.flatten ∧
      (chunks.foldl (appendG upd) x).2.Inv := by
  induction chunks with
  | nil => exact fun x hx => ⟨(AbsAppend_nil upd _ (Pkt.asSlice_length hx ▸ hx.1)).symm, hx⟩
  | cons c cs ih =>
    intro x hx
    have h1 := appendG_abs upd x c hx
    have h2 := ih (appendG upd x c) h1.2
    refine ⟨?_, h2.2⟩
    simp only [List.foldl_cons, List.flatten_cons]
    rw [h2.1, h1.1, AbsAppend_assoc]

variable {T : Type}

theorem absorb_map (g : S → T) (updS : S → List (BitVec 8) → S) (updT : T → List (BitVec 8) → T)
    (hg : ∀ s p, g (updS s p) = updT (g s) p) :
    ∀ (f : Nat) (s : S) (d : List (BitVec 8)),
      (g (absorb updS f s d).1, (absorb updS f s d).2) = absorb updT f (g s) d := by
  intro f s d
  fun_induction absorb updS f s d with
  | case1 s d => rfl
  | case2 f s d h32 ih => rw [ih, hg, absorb, if_pos h32]
  | case3 f s d h32 => exact (if_neg h32).symm

theorem AbsAppend_map (g : S → T) (updS : S → List (BitVec 8) → S) (updT : T → List (BitVec 8) → T)
    (hg : ∀ s p, g (updS s p) = updT (g s) p) (a : S × List (BitVec 8)) (d : List (BitVec 8)) :
    (g (AbsAppend updS a d).1, (AbsAppend updS a d).2) = AbsAppend updT (g a.1, a.2) d :=
  absorb_map g updS updT hg _ _ _

end HH
