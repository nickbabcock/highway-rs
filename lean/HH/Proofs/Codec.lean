import HH.Portable
import HH.Proofs.Buffer
import HH.Proofs.Bits
import HH.Proofs.Bytes
/-!
# The 164-byte checkpoint codec on abstract states (helper lemmas for C06, C11, C14)

A checkpoint is `lanes ++ (buffer field ++ count field)` with lengths 128, 32 and 4.  `fields` reads the three back from
such a concatenation, `stOfBytes_take` says that the lanes are read from the first 128 bytes only; `encodeAbs_fields`,
`decodeAbs_append` and `decode_encode` follow.
-/
namespace HH
namespace P

/-- `checkpoint` as a function of the abstract state (lanes, pending bytes) -/
def encodeAbs (a : St × List (BitVec 8)) : List (BitVec 8) :=
  (lanes16 a.1).flatMap toLE64 ++ (a.2 ++ zeros (32 - a.2.length)) ++ toLE32 (BitVec.ofNat 32 a.2.length)

/-- `from_checkpoint` as a function into abstract states -/
def decodeAbs (c : List (BitVec 8)) : St × List (BitVec 8) :=
  (⟨v4OfBytes c, v4OfBytes (c.drop 32), v4OfBytes (c.drop 64), v4OfBytes (c.drop 96)⟩,
   ((c.drop 128).take 32).take (min (le32 (c.drop 160)).toNat 31))

theorem checkpoint_abs (x : State) (h : x.buffer.Inv) : checkpoint x = encodeAbs (x.st, x.buffer.asSlice) := by
  simp only [checkpoint, encodeAbs, Pkt.len, Pkt.asSlice_length h]

theorem fromCheckpoint_abs (c : List (BitVec 8)) (hc : c.length = 164) :
    absP ((fromCheckpoint c).st, (fromCheckpoint c).buffer) = decodeAbs c ∧ (fromCheckpoint c).buffer.Inv := by
  have hk : min (le32 (c.drop 160)).toNat 31 ≤ 31 := Nat.min_le_right ..
  have hl : ((c.drop 128).take (min (le32 (c.drop 160)).toNat 31)).length = min (le32 (c.drop 160)).toNat 31 := by
    rw [List.length_take, List.length_drop, hc]; omega
  rw [absP, fromCheckpoint_buffer c _ rfl]
  refine ⟨?_, Nat.lt_succ_of_le hk, ?_⟩
  · rw [decodeAbs, List.take_left' hl, List.take_take, Nat.min_eq_left (Nat.le_succ_of_le hk)]; rfl
  · rw [List.length_append, hl, zeros, List.length_replicate]; omega

/-- the lanes that `from_checkpoint` reads: the first component of `decodeAbs c`, by definition -/
def stOfBytes (c : List (BitVec 8)) : St := ⟨v4OfBytes c, v4OfBytes (c.drop 32), v4OfBytes (c.drop 64), v4OfBytes (c.drop 96)⟩

/-- all sixteen reads end before byte 128 -/
theorem stOfBytes_take (c : List (BitVec 8)) (n : Nat) (h : 128 ≤ n) : stOfBytes (c.take n) = stOfBytes c := by
  simp (disch := omega) only [stOfBytes, v4OfBytes, dataToLanes, List.drop_drop, le64_drop_take, le64_take]

theorem fields (lanes buf cnt : List (BitVec 8)) (hl : lanes.length = 128) (hb : buf.length = 32) :
    (lanes ++ (buf ++ cnt)).take 128 = lanes ∧ ((lanes ++ (buf ++ cnt)).drop 128).take 32 = buf ∧
      (lanes ++ (buf ++ cnt)).drop 160 = cnt :=
  ⟨List.take_left' hl, by rw [List.drop_left' hl, List.take_left' hb],
    by rw [show (160 : Nat) = 128 + 32 from rfl, ← List.drop_drop, List.drop_left' hl, List.drop_left' hb]⟩

/-- which of the 164 bytes a restore reads: the 128 lane bytes, the count clamped to 31, and that many bytes of the
buffer field -/
theorem decodeAbs_append (lanes buf cnt : List (BitVec 8)) (hl : lanes.length = 128) (hb : buf.length = 32) :
    decodeAbs (lanes ++ (buf ++ cnt)) =
      (⟨v4OfBytes lanes, v4OfBytes (lanes.drop 32), v4OfBytes (lanes.drop 64), v4OfBytes (lanes.drop 96)⟩,
        buf.take (min (le32 cnt).toNat 31)) := by
  obtain ⟨h1, h2, h3⟩ := fields lanes buf cnt hl hb
  rw [decodeAbs, h2, h3]
  exact congrArg (·, _) ((stOfBytes_take _ 128 (Nat.le_refl _)).symm.trans (congrArg stOfBytes h1))

theorem le64_toLE64 (x : BitVec 64) (rest : List (BitVec 8)) : le64 (toLE64 x ++ rest) = x := Bits.cat8_extract x

theorem le32_toLE32 (x : BitVec 32) : le32 (toLE32 x) = x := Bits.cat4_extract x

theorem toLE64_length (x : BitVec 64) : (toLE64 x).length = 8 := rfl

theorem v4_bytes_length (v : V4) : (v.toList.flatMap toLE64).length = 32 := rfl

/- `toLE64 x` and `v.toList.flatMap toLE64` are lists of 8 and 32 literal cons cells, so the `drop`s below compute. -/

theorem v4_roundtrip (v : V4) (rest : List (BitVec 8)) :
    v4OfBytes (v.toList.flatMap toLE64 ++ rest) = v := by
  have d8 (x : BitVec 64) (r : List (BitVec 8)) : (toLE64 x ++ r).drop 8 = r := rfl
  have d16 (x y : BitVec 64) (r : List (BitVec 8)) : (toLE64 x ++ (toLE64 y ++ r)).drop 16 = r := rfl
  have d24 (x y z : BitVec 64) (r : List (BitVec 8)) : (toLE64 x ++ (toLE64 y ++ (toLE64 z ++ r))).drop 24 = r := rfl
  simp only [v4OfBytes, dataToLanes, V4.toList, List.flatMap_cons, List.flatMap_nil, List.append_nil, List.append_assoc,
    d8, d16, d24, le64_toLE64]

theorem lanes_bytes_length (s : St) : ((lanes16 s).flatMap toLE64).length = 128 := by
  simp only [lanes16, List.flatMap_append, List.length_append, v4_bytes_length]

theorem lanes_roundtrip (s : St) (rest : List (BitVec 8)) : stOfBytes ((lanes16 s).flatMap toLE64 ++ rest) = s := by
  have d32 (a : V4) (r : List (BitVec 8)) : (a.toList.flatMap toLE64 ++ r).drop 32 = r := rfl
  have d64 (a b : V4) (r : List (BitVec 8)) : (a.toList.flatMap toLE64 ++ (b.toList.flatMap toLE64 ++ r)).drop 64 = r := rfl
  have d96 (a b c : V4) (r : List (BitVec 8)) :
      (a.toList.flatMap toLE64 ++ (b.toList.flatMap toLE64 ++ (c.toList.flatMap toLE64 ++ r))).drop 96 = r := rfl
  simp only [stOfBytes, lanes16, List.flatMap_append, List.append_assoc, d32, d64, d96, v4_roundtrip]

theorem pad_length (pend : List (BitVec 8)) (h : pend.length ≤ 32) : (pend ++ zeros (32 - pend.length)).length = 32 := by
  simp only [List.length_append, zeros, List.length_replicate]; omega

theorem encodeAbs_assoc (a : St × List (BitVec 8)) :
    encodeAbs a = (lanes16 a.1).flatMap toLE64 ++ ((a.2 ++ zeros (32 - a.2.length)) ++ toLE32 (BitVec.ofNat 32 a.2.length)) :=
  List.append_assoc ..

theorem encodeAbs_fields (a : St × List (BitVec 8)) (h : a.2.length ≤ 32) :
    (encodeAbs a).take 128 = (lanes16 a.1).flatMap toLE64 ∧ ((encodeAbs a).drop 128).take 32 = a.2 ++ zeros (32 - a.2.length) ∧
      (encodeAbs a).drop 160 = toLE32 (BitVec.ofNat 32 a.2.length) :=
  encodeAbs_assoc a ▸ fields _ _ _ (lanes_bytes_length a.1) (pad_length a.2 h)

theorem encode_length (a : St × List (BitVec 8)) (h : a.2.length ≤ 32) : (encodeAbs a).length = 164 := by
  simp only [encodeAbs, List.length_append, lanes_bytes_length, pad_length _ h, toLE32, List.length_cons, List.length_nil]

theorem decode_encode (a : St × List (BitVec 8)) (h : a.2.length < 32) : decodeAbs (encodeAbs a) = a := by
  have hn : (BitVec.ofNat 32 a.2.length).toNat = a.2.length := by
    simp only [BitVec.toNat_ofNat]; omega
  obtain ⟨-, h2, h3⟩ := encodeAbs_fields a (Nat.le_of_lt h)
  rw [decodeAbs, h2, h3, le32_toLE32, hn, Nat.min_eq_left (by omega), List.take_left]
  exact congrArg (·, _) ((congrArg stOfBytes (encodeAbs_assoc a)).trans (lanes_roundtrip a.1 _))

/-- whatever the count field says (the clamp): no length hypothesis -/
theorem decode_pending_lt (c : List (BitVec 8)) : (decodeAbs c).2.length < 32 := by
  simp only [decodeAbs, List.length_take]; omega

end P
end HH
