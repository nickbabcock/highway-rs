import HH.Portable
import HH.Proofs.Buffer
/-!
# What it means for a back end to refine the portable hasher

All five back ends share the `append` skeleton (`appendG`) and the shape of the finalisation prologue
(`rounds n (if pending then update_remainder else lanes)`); they differ in the register type and in three pieces
of straight-line code.  `Refines` says that those three pieces commute with a lane-order conversion `toP`; the two
theorems below then give, once for all back ends, that `append` and the prologue act on the abstract state
`(toP lanes, pending bytes)` as `AbsAppend P.updPacket` and `P.finAbs` do.
-/
namespace HH

namespace P
/-- the finalisation prologue followed by `n` rounds, as a function of lanes and pending bytes -/
def finAbs (n : Nat) (a : St × List (BitVec 8)) : St :=
  rounds n (if a.2.length ≠ 0 then update (updateLanes a.1 a.2.length) (dataToLanes (remainder a.2)) else a.1)
end P

variable {R : Type}

structure Refines (toP : R → St) (upd : R → List (BitVec 8) → R) (rounds : Nat → R → R)
    (updRem : R → Pkt → R) : Prop where
  upd_eq : ∀ r pkt, toP (upd r pkt) = P.updPacket (toP r) pkt
  rounds_eq : ∀ n r, toP (rounds n r) = P.rounds n (toP r)
  updRem_eq : ∀ r p, p.Inv →
    toP (updRem r p) = P.update (P.updateLanes (toP r) p.idx) (P.dataToLanes (P.remainder p.asSlice))

namespace Refines
variable {toP : R → St} {upd : R → List (BitVec 8) → R} {rounds : Nat → R → R} {updRem : R → Pkt → R}

theorem finalizeCommon (h : Refines toP upd rounds updRem) (n : Nat) (r : R) (p : Pkt) (hp : p.Inv) :
    toP (rounds n (if !p.isEmpty then updRem r p else r)) = P.finAbs n (toP r, p.asSlice) := by
  rw [h.rounds_eq, P.finAbs, Pkt.asSlice_length hp]
  by_cases h0 : p.idx = 0
  · simp [Pkt.isEmpty, h0]
  · simp [Pkt.isEmpty, h0, h.updRem_eq r p hp]

theorem append (h : Refines toP upd rounds updRem) (x : R × Pkt) (d : List (BitVec 8)) (hx : x.2.Inv) :
    (toP (appendG upd x d).1, (appendG upd x d).2.asSlice) = AbsAppend P.updPacket (toP x.1, x.2.asSlice) d ∧
      (appendG upd x d).2.Inv := by
  have a := appendG_abs upd x d hx
  exact ⟨(congrArg (fun y => (toP y.1, y.2)) a.1).trans (AbsAppend_map toP upd P.updPacket h.upd_eq (x.1, x.2.asSlice) d), a.2⟩

end Refines

/-- the portable hasher is the trivial instance -/
theorem P.refines : Refines id P.updPacket P.rounds (fun s p => P.updateRemainder ⟨s, p⟩) :=
  ⟨fun _ _ => rfl, fun _ _ => rfl, fun _ _ _ => rfl⟩

theorem P.finalizeCommon_abs (n : Nat) (x : P.State) (hx : x.buffer.Inv) :
    P.finalizeCommon n x = P.finAbs n (x.st, x.buffer.asSlice) :=
  P.refines.finalizeCommon n x.st x.buffer hx

end HH
