import HH.Proofs.MachineLemmas
import HH.Proofs.Codec
import HH.Proofs.PortableSpec
import HH.Proofs.SseRefine
import HH.Proofs.AvxRefine
import HH.Proofs.NeonRefine
import HH.Proofs.WasmRefine
/-!
# Every back end refines one abstract machine

The abstract state of a hasher is `(lanes in portable order, pending bytes)`; the abstract operations are
`absAppend`, `digestAbs`, `P.encodeAbs`, `P.decodeAbs`.  `Hasher.Is h a` is the simulation relation: `h` satisfies the
packet invariant (`idx < 32`, 32-byte buffer) and represents `a`.  Every constructor establishes it — including
restore from ARBITRARY 164 bytes — every operation preserves it, and every observation is the abstract one.
All history-level properties are proved from the lemmas of this file, never from the back ends themselves.

A back end `X` enters this file through `X.refines`, `X.abs`, `X.new_refines`, `X.toPortable_fromPortable` and the three
`X.finalizeN_refines`; its `checkpoint` / `fromCheckpoint` are by definition the portable ones on converted lanes.
-/
namespace HH

/-- the three digests as a function of the abstract state -/
def digestAbs (w : Width) (a : St × List (BitVec 8)) : Digest :=
  match w with
  | .w64 => .d64 (P.out64 (P.finAbs 4 a))
  | .w128 => .d128 (P.out128 (P.finAbs 6 a))
  | .w256 => .d256 (P.out256 (P.finAbs 10 a))

/-- `AbsAppend` (Buffer.lean) at the portable packet step -/
def absAppend (a : St × List (BitVec 8)) (d : List (BitVec 8)) : St × List (BitVec 8) := AbsAppend P.updPacket a d

theorem absAppend_assoc (a : St × List (BitVec 8)) (d1 d2 : List (BitVec 8)) :
    absAppend (absAppend a d1) d2 = absAppend a (d1 ++ d2) := AbsAppend_assoc ..

theorem absAppend_nil (a : St × List (BitVec 8)) (h : a.2.length < 32) : absAppend a [] = a := AbsAppend_nil _ a h

namespace Hasher

def abs : Hasher → St × List (BitVec 8)
  | portable s => absP (s.st, s.buffer)
  | sse s => Sse.abs s
  | avx s => Avx.abs s
  | neon s => NeonB.abs s
  | wasm s => WasmB.abs s

def Inv : Hasher → Prop
  | portable s => s.buffer.Inv
  | sse s => s.buffer.Inv
  | avx s => s.buffer.Inv
  | neon s => s.buffer.Inv
  | wasm s => s.buffer.Inv

structure Is (h : Hasher) (a : St × List (BitVec 8)) : Prop where
  inv : h.Inv
  abs_eq : h.abs = a

theorem Inv.is {h : Hasher} (hi : h.Inv) : h.Is h.abs := ⟨hi, rfl⟩

variable {h h' : Hasher} {a : St × List (BitVec 8)}

namespace Is

theorem pending_lt (s : h.Is a) : a.2.length < 32 := by
  obtain ⟨hi, rfl⟩ := s
  cases h <;> exact Nat.lt_of_le_of_lt (Nat.le_of_eq (Pkt.asSlice_length hi)) hi.1

theorem append (s : h.Is a) (d : List (BitVec 8)) : (h.append d).Is (absAppend a d) := by
  obtain ⟨hi, rfl⟩ := s
  cases h with
  | portable x => exact have r := P.refines.append (x.st, x.buffer) d hi; ⟨r.2, r.1⟩
  | sse x => exact have r := Sse.refines.append (x.r, x.buffer) d hi; ⟨r.2, r.1⟩
  | avx x => exact have r := Avx.refines.append (x.r, x.buffer) d hi; ⟨r.2, r.1⟩
  | neon x => exact have r := NeonB.refines.append (x.r, x.buffer) d hi; ⟨r.2, r.1⟩
  | wasm x => exact have r := WasmB.refines.append (x.r, x.buffer) d hi; ⟨r.2, r.1⟩

theorem foldl (s : h.Is a) (chunks : List (List (BitVec 8))) :
    (chunks.foldl Hasher.append h).Is (absAppend a chunks.flatten) := by
  induction chunks generalizing h a with
  | nil => exact (absAppend_nil a s.pending_lt).symm ▸ s
  | cons c cs ih => exact absAppend_assoc a c cs.flatten ▸ ih (s.append c)

theorem finalize (s : h.Is a) (w : Width) : h.finalize w = digestAbs w a := by
  obtain ⟨hi, rfl⟩ := s
  cases h with
  | portable x =>
    cases w
    · exact congrArg (fun s => Digest.d64 (P.out64 s)) (P.finalizeCommon_abs 4 x hi)
    · exact congrArg (fun s => Digest.d128 (P.out128 s)) (P.finalizeCommon_abs 6 x hi)
    · exact congrArg (fun s => Digest.d256 (P.out256 s)) (P.finalizeCommon_abs 10 x hi)
  | sse x =>
    cases w <;> simp only [Hasher.finalize, finalize64, finalize128, finalize256, digestAbs, abs,
      Sse.finalize64_refines x hi, Sse.finalize128_refines x hi, Sse.finalize256_refines x hi]
  | avx x =>
    cases w <;> simp only [Hasher.finalize, finalize64, finalize128, finalize256, digestAbs, abs,
      Avx.finalize64_refines x hi, Avx.finalize128_refines x hi, Avx.finalize256_refines x hi]
  | neon x =>
    cases w <;> simp only [Hasher.finalize, finalize64, finalize128, finalize256, digestAbs, abs,
      NeonB.finalize64_refines x hi, NeonB.finalize128_refines x hi, NeonB.finalize256_refines x hi]
  | wasm x =>
    cases w <;> simp only [Hasher.finalize, finalize64, finalize128, finalize256, digestAbs, abs,
      WasmB.finalize64_refines x hi, WasmB.finalize128_refines x hi, WasmB.finalize256_refines x hi]

theorem finalize64 (s : h.Is a) : h.finalize64 = P.out64 (P.finAbs 4 a) :=
  Digest.d64.inj (s.finalize .w64)

theorem checkpoint (s : h.Is a) : h.checkpoint = P.encodeAbs a := by
  obtain ⟨hi, rfl⟩ := s
  -- every SIMD `checkpoint` is by definition the portable one on `⟨toPortable regs, buffer⟩`
  cases h <;> exact P.checkpoint_abs _ hi

theorem checkpoint_length (s : h.Is a) : h.checkpoint.length = 164 :=
  s.checkpoint ▸ P.encode_length _ (Nat.le_of_lt s.pending_lt)

end Is

theorem Is.new {b : Backend} {k : V4} (hh : Hasher.new b k = some h) : h.Is (Spec.reset k, []) := by
  cases b <;> cases hh
  · exact ⟨P.new_inv k, P.new_abs k⟩
  · exact ⟨Pkt.default_inv, (congrArg (·, _) (Sse.new_refines k)).trans (P.new_abs k)⟩
  · exact ⟨Pkt.default_inv, (congrArg (·, _) (Avx.new_refines k)).trans (P.new_abs k)⟩
  · exact ⟨Pkt.default_inv, (congrArg (·, _) (NeonB.new_refines k)).trans (P.new_abs k)⟩
  · exact ⟨Pkt.default_inv, (congrArg (·, _) (WasmB.new_refines k)).trans (P.new_abs k)⟩

theorem Is.portable_new (k : V4) : (portable (P.new k)).Is (Spec.reset k, []) := Is.new (b := .portable) rfl

theorem Is.default {b : Backend} (hh : Hasher.default b = some h) : h.Is (Spec.reset V4.zero, []) :=
  Is.new (default_eq_new b ▸ hh)

-- sealed: to see that a SIMD restore has the buffer of the portable one, the unifier would unfold `P.fromCheckpoint c` down to `fill`
seal P.fromCheckpoint in
/-- ANY 164 bytes: no well-formedness hypothesis on `c` beyond its length -/
theorem Is.fromCheckpoint {b : Backend} {c : List (BitVec 8)} (hc : c.length = 164)
    (hh : Hasher.fromCheckpoint b c = some h) :
    h.Is (P.decodeAbs c) := by
  have hp := P.fromCheckpoint_abs c hc
  cases b <;> cases hh
  · exact ⟨hp.2, hp.1⟩
  · exact ⟨hp.2, (congrArg (·, _) (Sse.toPortable_fromPortable _)).trans hp.1⟩
  · exact ⟨hp.2, (congrArg (·, _) (Avx.toPortable_fromPortable _)).trans hp.1⟩
  · exact ⟨hp.2, (congrArg (·, _) (NeonB.toPortable_fromPortable _)).trans hp.1⟩
  · exact ⟨hp.2, (congrArg (·, _) (WasmB.toPortable_fromPortable _)).trans hp.1⟩

theorem Is.restore {b : Backend} (s : h.Is a) (hh : Hasher.fromCheckpoint b h.checkpoint = some h') : h'.Is a := by
  have r := Is.fromCheckpoint s.checkpoint_length hh
  rwa [s.checkpoint, P.decode_encode _ s.pending_lt] at r

/-- two hashers (of any back ends) in the same abstract state are indistinguishable by any
sequence of appends followed by any finalisation or checkpoint -/
theorem Is.obs_eq {h1 h2 : Hasher} (s1 : h1.Is a) (s2 : h2.Is a) (chunks : List (List (BitVec 8))) :
    (∀ w, (chunks.foldl Hasher.append h1).finalize w = (chunks.foldl Hasher.append h2).finalize w) ∧
    (chunks.foldl Hasher.append h1).checkpoint = (chunks.foldl Hasher.append h2).checkpoint ∧
    (chunks.foldl Hasher.append h1).finalize64 = (chunks.foldl Hasher.append h2).finalize64 :=
  have t1 := s1.foldl chunks
  have t2 := s2.foldl chunks
  ⟨fun w => (t1.finalize w).trans (t2.finalize w).symm, t1.checkpoint.trans t2.checkpoint.symm,
    t1.finalize64.trans t2.finalize64.symm⟩

theorem obs_eq (h1 h2 : Hasher) (i1 : h1.Inv) (i2 : h2.Inv) (e : h1.abs = h2.abs)
    (chunks : List (List (BitVec 8))) :
    (∀ w, (chunks.foldl Hasher.append h1).finalize w = (chunks.foldl Hasher.append h2).finalize w) ∧
    (chunks.foldl Hasher.append h1).checkpoint = (chunks.foldl Hasher.append h2).checkpoint ∧
    (chunks.foldl Hasher.append h1).finalize64 = (chunks.foldl Hasher.append h2).finalize64 :=
  i1.is.obs_eq ⟨i2, e.symm⟩ chunks

end Hasher
end HH
