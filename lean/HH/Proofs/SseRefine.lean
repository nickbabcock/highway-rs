import HH.Sse
import HH.Proofs.RemLanes
import HH.Proofs.Refine
/-!
# The SSE4.1 model refines the portable model (step lemmas, valid for ALL register states)
-/
namespace HH
namespace Sse
open X86

theorem rotateBy32_eq (x : BitVec 128) : rotateBy32 x = shuffle_epi32 x 177 := rfl

/-- packet registers in portable lane order -/
def lanesOfRegs (pH pL : BitVec 128) : V4 := ⟨lo64 pL, hi64 pL, lo64 pH, hi64 pH⟩

theorem update_refines (r : Regs) (pH pL : BitVec 128) :
    toPortable (update r pH pL) = P.update (toPortable r) (lanesOfRegs pH pL) := by
  simp only [update, toPortable, P.update, lanesOfRegs, zipperMerge, rotateBy32_eq, zipper_shuffle, mul_epu32_rot,
    mul_epu32_srli, lo64_add, hi64_add, lo64_xor, hi64_xor, lo64_mk, hi64_mk, V4.add, V4.xor, V4.zipWith, P.zipperAdd]

theorem loadu_lanes (pkt : List (BitVec 8)) :
    lanesOfRegs (loadu_si128 pkt 16) (loadu_si128 pkt 0) = P.dataToLanes pkt := by
  simp [lanesOfRegs, loadu_si128, ofBytes16, P.dataToLanes]

theorem updPacket_refines (r : Regs) (pkt : List (BitVec 8)) :
    toPortable (updPacket r pkt) = P.updPacket (toPortable r) pkt := by
  simp only [updPacket, update_refines, loadu_lanes, P.updPacket]

theorem permuteAndUpdate_refines (r : Regs) :
    toPortable (permuteAndUpdate r) = P.permuteAndUpdate (toPortable r) := by
  simp only [permuteAndUpdate, update_refines, P.permuteAndUpdate]
  congr 1
  simp [lanesOfRegs, rotateBy32_eq, shuffle_epi32_rot, P.permute, toPortable]

theorem rounds_refines (n : Nat) (r : Regs) : toPortable (rounds n r) = P.rounds n (toPortable r) := by
  induction n generalizing r with
  | zero => rfl
  | succ n ih => rw [rounds, P.rounds, ih, permuteAndUpdate_refines]

theorem toPortable_fromPortable (p : St) : toPortable (fromPortable p) = p := by
  simp [toPortable, fromPortable]

theorem fromPortable_toPortable (r : Regs) : fromPortable (toPortable r) = r := by
  simp [toPortable, fromPortable, set_epi64x, mk_lo_hi]

theorem new_refines (k : V4) : toPortable (new k).r = (P.new k).st := by
  simp [new, toPortable, P.new, rotateBy32_eq, shuffle_epi32_rot, init0L, init0H, init1L, init1H, P.init0, P.init1,
    V4.zipWith, V4.map]
  refine ⟨⟨?_, ?_, ?_, ?_⟩, ⟨?_, ?_, ?_, ?_⟩⟩ <;> exact BitVec.xor_comm _ _

theorem loadMultipleOfFour_eq (mem : List (BitVec 8)) (off len : Nat) :
    loadMultipleOfFour mem off len = loadGroups mem off len := by
  unfold loadMultipleOfFour loadGroups
  by_cases h8 : len ≥ 8
  · have h4 : 4 ≤ len := by omega
    by_cases h12 : len - 8 ≥ 4
    · have : 12 ≤ len := by omega
      have e := le32_drop_take mem (n := off + len) (off := off + 8) (by omega)
      simp only [BitVec.ofNat_eq_ofNat, h8, h12, h4, this, ↓reduceIte, mask_lo, mask_hi, loadl_mk32, set1_mk32, and_mk32, or_mk32, e,
        List.drop_drop, BitVec.and_zero, BitVec.zero_or, BitVec.or_zero, and_ones32]
    · have : ¬ 12 ≤ len := by omega
      simp only [BitVec.ofNat_eq_ofNat, h8, h12, h4, this, ↓reduceIte, loadl_mk32, List.drop_drop]
  · have h12 : ¬ 12 ≤ len := by omega
    by_cases h4 : len ≥ 4
    · have e := le32_drop_take mem (n := off + len) (off := off) (by omega)
      simp only [BitVec.ofNat_eq_ofNat, h8, h12, h4, ↓reduceIte, mask_lo, zero_mk32, set1_mk32, and_mk32, or_mk32, e, BitVec.and_zero,
        BitVec.zero_or, and_ones32]
    · simp only [BitVec.ofNat_eq_ofNat, h8, h12, h4, ↓reduceIte, zero_mk32]

theorem remainder_eq (buf : List (BitVec 8)) (n : Nat) (h : n < 32) : remainder buf n = remRegs buf n := by
  simp only [remainder, remRegs, bit16 h, stragglers_end, loadMultipleOfFour_eq, loadu_si128, List.drop_zero, cvtsi64_si128]

theorem remainder_refines (buf : List (BitVec 8)) (n : Nat) (hb : buf.length = 32) (h : n < 32) :
    lanesOfRegs (remainder buf n).1 (remainder buf n).2 = P.dataToLanes (P.remainder (buf.take n)) := by
  rw [remainder_eq buf n h]; exact remRegs_lanes buf n (by omega) h

theorem rotate32By_lanes (v : BitVec 128) (n : Nat) (h : n < 32) :
    rotate32By v n = mk (P.rot32Lane n (hi64 v)) (P.rot32Lane n (lo64 v)) := by
  have hl : (BitVec.ofNat 64 n).toNat = n := Nat.mod_eq_of_lt (Nat.lt_trans h (by decide))
  have hr : (BitVec.ofNat 64 (2 ^ 64 + 32 - n)).toNat = 32 - n := Bits.wrap_sub (Nat.le_of_lt h) (by decide)
  rw [rotate32By, sll_epi32_lanes, srl_epi32_lanes, hl, hr, or_mk32]
  exact rot_lanes v n h

theorem updateRemainder_refines (x : State) (hx : x.buffer.Inv) :
    toPortable (updateRemainder x) =
      P.update (P.updateLanes (toPortable x.r) x.buffer.idx) (P.dataToLanes (P.remainder (x.buffer.buf.take x.buffer.idx))) := by
  obtain ⟨hi, hb⟩ := hx
  simp only [updateRemainder, update_refines, remainder_refines _ _ hb hi, Pkt.len]
  congr 1
  simp only [toPortable, P.updateLanes, vsize_add _ _ (Nat.lt_trans hi (by decide)), rotate32By_lanes _ _ hi, lo64_mk, hi64_mk, V4.map]

theorem modularReduction_lanes (x init : BitVec 128) :
    lo64 (modularReduction x init) = (P.moduleReduction (hi64 x) (lo64 x) (hi64 init) (lo64 init)).1 ∧
    hi64 (modularReduction x init) = (P.moduleReduction (hi64 x) (lo64 x) (hi64 init) (lo64 init)).2 := by
  have h62 : ¬ (62 : Nat) > 63 := by decide
  have h63 : ¬ (63 : Nat) > 63 := by decide
  simp only [modularReduction, andNot, lo64_xor, hi64_xor, lo64_slli8, hi64_slli8, lo64_srli _ _ h62, lo64_srli _ _ h63,
    lo64_andnot, hi64_andnot, lo64_add, hi64_add, add_self_shl, shl1_shl1, signBit_lo, signBit_hi]
  exact modLane (hi64 x) (lo64 x) (hi64 init) (lo64 init)

theorem refines : Refines toPortable updPacket rounds (fun r p => updateRemainder ⟨r, p⟩) :=
  ⟨updPacket_refines, rounds_refines, fun r p hp => updateRemainder_refines ⟨r, p⟩ hp⟩

def abs (x : State) : St × List (BitVec 8) := (toPortable x.r, x.buffer.asSlice)

theorem finalizeCommon_refines (n : Nat) (x : State) (hx : x.buffer.Inv) : toPortable (finalizeCommon n x) = P.finAbs n (abs x) :=
  refines.finalizeCommon n x.r x.buffer hx

theorem finalize64_refines (x : State) (hx : x.buffer.Inv) : finalize64 x = P.out64 (P.finAbs 4 (abs x)) := by
  rw [← finalizeCommon_refines 4 x hx]
  simp only [finalize64, storel_epi64, lo64_add, P.out64, toPortable]
  ac_rfl

theorem finalize128_refines (x : State) (hx : x.buffer.Inv) : finalize128 x = P.out128 (P.finAbs 6 (abs x)) := by
  rw [← finalizeCommon_refines 6 x hx]
  simp only [finalize128, storeu_si128, lo64_add, hi64_add, P.out128, toPortable, Prod.mk.injEq]
  constructor <;> ac_rfl

theorem finalize256_refines (x : State) (hx : x.buffer.Inv) : finalize256 x = P.out256 (P.finAbs 10 (abs x)) := by
  rw [← finalizeCommon_refines 10 x hx]
  simp only [finalize256, P.out256, toPortable, modularReduction_lanes, lo64_add, hi64_add]

end Sse
end HH
