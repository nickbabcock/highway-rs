import HH.Intrin.X86
import HH.Proofs.UpdateSpec
/-!
# The lane kit: a 128-bit register as two 64-bit lanes, four 32-bit lanes, sixteen bytes

Registers are built with `++` and taken apart with `extractLsb'`, so most facts follow from the `append`/`extractLsb'`
lemmas of core; the few arithmetic ones go through `toNat` and `omega`.  NEON and Wasm use the kit through bridge
lemmas: their register views are the same functions, up to Wasm's reversed lane numbering.
-/
namespace HH
namespace X86
open Bits

theorem lo64_extract (r : BitVec 128) : lo64 r = r.extractLsb' 0 64 := BitVec.setWidth_eq_extractLsb' (by decide)
theorem hi64_extract (r : BitVec 128) : hi64 r = r.extractLsb' 64 64 := BitVec.setWidth_ushiftRight_eq_extractLsb

@[simp] theorem lo64_mk (h l : BitVec 64) : lo64 (mk h l) = l := BitVec.setWidth_append_eq_right
@[simp] theorem hi64_mk (h l : BitVec 64) : hi64 (mk h l) = h := hi_append h l
theorem mk_lo_hi (r : BitVec 128) : mk (hi64 r) (lo64 r) = r := by
  rw [hi64_extract, lo64_extract]; exact BitVec.extractLsb'_append_extractLsb'
theorem ext128 (a b : BitVec 128) (h1 : lo64 a = lo64 b) (h2 : hi64 a = hi64 b) : a = b := by
  rw [← mk_lo_hi a, ← mk_lo_hi b, h1, h2]

theorem extract_lo64 (v : BitVec 128) (s n : Nat) (h : s + n ≤ 64) : (lo64 v).extractLsb' s n = v.extractLsb' s n :=
  BitVec.extractLsb'_setWidth_of_le h
theorem extract_hi64 (v : BitVec 128) (s n : Nat) (h : s + n ≤ 64) : (hi64 v).extractLsb' s n = v.extractLsb' (64 + s) n := by
  rw [hi64, BitVec.extractLsb'_setWidth_of_le h, extractLsb'_ushiftRight]

theorem lo64_and (a b : BitVec 128) : lo64 (a &&& b) = lo64 a &&& lo64 b := BitVec.setWidth_and
theorem hi64_and (a b : BitVec 128) : hi64 (a &&& b) = hi64 a &&& hi64 b := by
  simp only [hi64_extract, BitVec.extractLsb'_and]
theorem lo64_not (a : BitVec 128) : lo64 (~~~a) = ~~~lo64 a := BitVec.setWidth_not (by decide)
theorem hi64_not (a : BitVec 128) : hi64 (~~~a) = ~~~hi64 a := by
  unfold hi64
  ext i hi
  have : 64 + i < 128 := by omega
  simp [this]
@[simp] theorem lo64_xor (a b : BitVec 128) : lo64 (xor_si128 a b) = lo64 a ^^^ lo64 b := BitVec.setWidth_xor
@[simp] theorem hi64_xor (a b : BitVec 128) : hi64 (xor_si128 a b) = hi64 a ^^^ hi64 b := by
  simp only [hi64_extract, xor_si128, BitVec.extractLsb'_xor]
@[simp] theorem lo64_or (a b : BitVec 128) : lo64 (or_si128 a b) = lo64 a ||| lo64 b := BitVec.setWidth_or
@[simp] theorem hi64_or (a b : BitVec 128) : hi64 (or_si128 a b) = hi64 a ||| hi64 b := by
  simp only [hi64_extract, or_si128, BitVec.extractLsb'_or]
theorem lo64_andnot (a b : BitVec 128) : lo64 (andnot_si128 a b) = ~~~(lo64 a) &&& lo64 b := by
  simp only [andnot_si128, lo64_and, lo64_not]
theorem hi64_andnot (a b : BitVec 128) : hi64 (andnot_si128 a b) = ~~~(hi64 a) &&& hi64 b := by
  simp only [andnot_si128, hi64_and, hi64_not]
@[simp] theorem lo64_add (a b : BitVec 128) : lo64 (add_epi64 a b) = lo64 a + lo64 b := by simp [add_epi64]
@[simp] theorem hi64_add (a b : BitVec 128) : hi64 (add_epi64 a b) = hi64 a + hi64 b := by simp [add_epi64]
@[simp] theorem lo64_set (e1 e0 : BitVec 64) : lo64 (set_epi64x e1 e0) = e0 := by simp [set_epi64x]
@[simp] theorem hi64_set (e1 e0 : BitVec 64) : hi64 (set_epi64x e1 e0) = e1 := by simp [set_epi64x]

theorem lane32_0 (v : BitVec 128) : lane32 v 0 = (lo64 v).setWidth 32 := by
  rw [BitVec.setWidth_eq_extractLsb' (by decide), extract_lo64 _ _ _ (by decide)]; rfl
theorem lane32_1 (v : BitVec 128) : lane32 v 1 = ((lo64 v) >>> 32).setWidth 32 := by
  rw [BitVec.setWidth_ushiftRight_eq_extractLsb, extract_lo64 _ _ _ (by decide)]; rfl
theorem lane32_2 (v : BitVec 128) : lane32 v 2 = (hi64 v).setWidth 32 := by
  rw [BitVec.setWidth_eq_extractLsb' (by decide), extract_hi64 _ _ _ (by decide)]; rfl
theorem lane32_3 (v : BitVec 128) : lane32 v 3 = ((hi64 v) >>> 32).setWidth 32 := by
  rw [BitVec.setWidth_ushiftRight_eq_extractLsb, extract_hi64 _ _ _ (by decide)]; rfl

/-- two 32-bit halves as one 64-bit lane -/
def join32 (b a : BitVec 32) : BitVec 64 := a.setWidth 64 ||| (b.setWidth 64 <<< 32)

theorem join32_eq_append (b a : BitVec 32) : join32 b a = b ++ a := by
  rw [join32, BitVec.or_comm, ← BitVec.setWidth_append_eq_shiftLeft_setWidth_or, BitVec.setWidth_eq]
theorem join32_lo (b a : BitVec 32) : (join32 b a).setWidth 32 = a := by
  rw [join32_eq_append]; exact BitVec.setWidth_append_eq_right
theorem join32_hi (b a : BitVec 32) : ((join32 b a) >>> 32).setWidth 32 = b := by
  rw [join32_eq_append, BitVec.setWidth_ushiftRight_eq_extractLsb]; exact BitVec.extractLsb'_append_eq_left
theorem join32_halves (x : BitVec 64) : join32 ((x >>> 32).setWidth 32) (x.setWidth 32) = x := by
  rw [join32_eq_append, BitVec.setWidth_ushiftRight_eq_extractLsb, BitVec.setWidth_eq_extractLsb' (by decide)]
  exact BitVec.extractLsb'_append_extractLsb'

theorem mk32_eq_mk (d c b a : BitVec 32) : mk32 d c b a = mk (join32 d c) (join32 b a) := by
  rw [mk32, mk, join32_eq_append, join32_eq_append, BitVec.append_assoc]; rfl
theorem lo64_mk32 (d c b a : BitVec 32) : lo64 (mk32 d c b a) = join32 b a := by rw [mk32_eq_mk, lo64_mk]
theorem hi64_mk32 (d c b a : BitVec 32) : hi64 (mk32 d c b a) = join32 d c := by rw [mk32_eq_mk, hi64_mk]
theorem mk_as_mk32 (h l : BitVec 64) : mk h l = mk32 ((h >>> 32).setWidth 32) (h.setWidth 32) ((l >>> 32).setWidth 32) (l.setWidth 32) := by
  rw [mk32_eq_mk, join32_halves, join32_halves]
theorem mk32_lanes (v : BitVec 128) : mk32 (lane32 v 3) (lane32 v 2) (lane32 v 1) (lane32 v 0) = v := by
  rw [lane32_0, lane32_1, lane32_2, lane32_3, ← mk_as_mk32, mk_lo_hi]

theorem lane32_mk32 (d c b a : BitVec 32) :
    lane32 (mk32 d c b a) 0 = a ∧ lane32 (mk32 d c b a) 1 = b ∧ lane32 (mk32 d c b a) 2 = c ∧ lane32 (mk32 d c b a) 3 = d := by
  simp only [lane32_0, lane32_1, lane32_2, lane32_3, lo64_mk32, hi64_mk32, join32_lo, join32_hi, and_self]
theorem lane32_set1 (x : BitVec 32) (k : Nat) (hk : k < 4) : lane32 (set1_epi32 x) k = x := by
  obtain ⟨h0, h1, h2, h3⟩ := lane32_mk32 x x x x
  match k, hk with
  | 0, _ => exact h0
  | 1, _ => exact h1
  | 2, _ => exact h2
  | 3, _ => exact h3
theorem set1_mk32 (x : BitVec 32) : set1_epi32 x = mk32 x x x x := rfl
theorem insert3 (d c b a x : BitVec 32) : insert_epi32 (mk32 d c b a) x 3 = mk32 x c b a := by
  simp only [insert_epi32, Nat.reduceMod, lane32_mk32, ↓reduceIte, Nat.reduceEqDiff]

theorem or_mk32 (d c b a d' c' b' a' : BitVec 32) :
    or_si128 (mk32 d c b a) (mk32 d' c' b' a') = mk32 (d ||| d') (c ||| c') (b ||| b') (a ||| a') := by
  rw [or_si128, mk32, mk32, mk32, BitVec.or_append, BitVec.or_append, BitVec.or_append]
theorem and_mk32 (d c b a d' c' b' a' : BitVec 32) :
    and_si128 (mk32 d c b a) (mk32 d' c' b' a') = mk32 (d &&& d') (c &&& c') (b &&& b') (a &&& a') := by
  rw [and_si128, mk32, mk32, mk32, BitVec.and_append, BitVec.and_append, BitVec.and_append]
theorem and_ones32 (x : BitVec 32) : x &&& 4294967295#32 = x := BitVec.and_allOnes

theorem shr32_setWidth (x : BitVec 64) : ((x >>> 32).setWidth 32).setWidth 64 = x >>> 32 := by
  apply BitVec.eq_of_toNat_eq
  simp only [BitVec.toNat_setWidth, BitVec.toNat_ushiftRight, Nat.shiftRight_eq_div_pow]
  omega
theorem shl32_setWidth (x : BitVec 64) : (x.setWidth 32).setWidth 64 <<< 32 = x <<< 32 := by
  apply BitVec.eq_of_toNat_eq
  simp only [BitVec.toNat_setWidth, BitVec.toNat_shiftLeft, Nat.shiftLeft_eq]
  omega
theorem rotl32_eq_join (x : BitVec 64) : x.rotateLeft 32 = join32 (x.setWidth 32) ((x >>> 32).setWidth 32) := by
  rw [join32, shr32_setWidth, shl32_setWidth, BitVec.rotateLeft_def, BitVec.or_comm]

/-- `rotate_by_32`: swap the 32-bit halves of each 64-bit lane -/
theorem shuffle_epi32_rot (v : BitVec 128) :
    shuffle_epi32 v 177 = mk ((hi64 v).rotateLeft 32) ((lo64 v).rotateLeft 32) := by
  simp only [shuffle_epi32, Nat.reduceShiftRight, Nat.reduceMod, mk32_eq_mk, lane32_0, lane32_1, lane32_2, lane32_3, rotl32_eq_join]

theorem shr32_low (b : BitVec 64) : (b >>> 32) &&& 0xffffffff#64 = b >>> 32 := by
  rw [← P.mask32_eq, shr32_setWidth]
theorem rot32_low (b : BitVec 64) : (b.rotateLeft 32) &&& 0xffffffff#64 = b >>> 32 := by
  rw [← P.mask32_eq, rotl32_eq_join, join32_lo, shr32_setWidth]

/-- `_mm_mul_epu32(a, rotate_by_32(b))` and `_mm_mul_epu32(a, b >> 32)` are both the portable
`(a & 0xffffffff) * (b >> 32)` on each 64-bit lane -/
theorem mul_epu32_rot (a b : BitVec 128) :
    mul_epu32 a (shuffle_epi32 b 177) = mk (P.mul32 (hi64 a) (hi64 b)) (P.mul32 (lo64 a) (lo64 b)) := by
  rw [shuffle_epi32_rot]
  simp only [mul_epu32, P.mul32, lo64_mk, hi64_mk, P.mask32_eq, rot32_low]

theorem mul_epu32_srli (a b : BitVec 128) :
    mul_epu32 a (srli_epi64 b 32) = mk (P.mul32 (hi64 a) (hi64 b)) (P.mul32 (lo64 a) (lo64 b)) := by
  have : srli_epi64 b 32 = mk (hi64 b >>> 32) (lo64 b >>> 32) := by simp [srli_epi64]
  rw [this]
  simp only [mul_epu32, P.mul32, lo64_mk, hi64_mk, P.mask32_eq, shr32_low]

/-- rotate a 32-bit half left by `n < 32` (at `n = 0` the right shift by 32 gives 0, which `|||` ignores) -/
def rot32 (n : Nat) (l : BitVec 32) : BitVec 32 := (l <<< n) ||| (l >>> (32 - n))

theorem rot_lanes (v : BitVec 128) (n : Nat) (h : n < 32) :
    mk32 (rot32 n (lane32 v 3)) (rot32 n (lane32 v 2)) (rot32 n (lane32 v 1)) (rot32 n (lane32 v 0))
      = mk (P.rot32Lane n (hi64 v)) (P.rot32Lane n (lo64 v)) := by
  simp only [mk32_eq_mk, join32, rot32, P.rot32Lane_eq n h, lane32_0, lane32_1, lane32_2, lane32_3]

set_option linter.unusedVariables false in
/-- `rot_lanes` with a hypothesis `n ≠ 0` that it does not need -/
theorem rot_mk32 (v : BitVec 128) (n : Nat) (h0 : n ≠ 0) (h : n < 32) :
    mk32 (rot32 n (lane32 v 3)) (rot32 n (lane32 v 2)) (rot32 n (lane32 v 1)) (rot32 n (lane32 v 0))
      = mk (P.rot32Lane n (hi64 v)) (P.rot32Lane n (lo64 v)) := rot_lanes v n h

/-! The shifts by a register count give 0 from 32 on, and so does `<<<` / `>>>` on 32 bits. -/

theorem sll_epi32_lanes (v : BitVec 128) (x : BitVec 64) :
    sll_epi32 v (cvtsi64_si128 x) = mk32 (lane32 v 3 <<< x.toNat) (lane32 v 2 <<< x.toNat) (lane32 v 1 <<< x.toNat) (lane32 v 0 <<< x.toNat) := by
  simp only [sll_epi32, cvtsi64_si128, lo64_mk]
  split
  · simp only [BitVec.shiftLeft_eq_zero (show 32 ≤ x.toNat by omega)]; decide
  · rfl
theorem srl_epi32_lanes (v : BitVec 128) (x : BitVec 64) :
    srl_epi32 v (cvtsi64_si128 x) = mk32 (lane32 v 3 >>> x.toNat) (lane32 v 2 >>> x.toNat) (lane32 v 1 >>> x.toNat) (lane32 v 0 >>> x.toNat) := by
  simp only [srl_epi32, cvtsi64_si128, lo64_mk]
  split
  · simp only [BitVec.ushiftRight_eq_zero (show 32 ≤ x.toNat by omega)]; decide
  · rfl
theorem sllv32_eq (a c : BitVec 32) : sllv32 a c = a <<< c.toNat := by
  unfold sllv32; split
  · rw [BitVec.shiftLeft_eq_zero (by omega)]; rfl
  · rfl
theorem srlv32_eq (a c : BitVec 32) : srlv32 a c = a >>> c.toNat := by
  unfold srlv32; split
  · rw [BitVec.ushiftRight_eq_zero (by omega)]; rfl
  · rfl

theorem slt_ofNat (t n : Nat) (ht : t < 2 ^ 31) (hn : n < 2 ^ 31) : (BitVec.ofNat 32 t).slt (BitVec.ofNat 32 n) = decide (t < n) := by
  have toInt (k : Nat) (hk : k < 2 ^ 31) : (BitVec.ofNat 32 k).toInt = k := by
    have e : (BitVec.ofNat 32 k).toNat = k := by rw [BitVec.toNat_ofNat]; omega
    rw [BitVec.toInt_eq_toNat_of_lt (by omega), e]
  rw [BitVec.slt_eq_decide, toInt n hn, toInt t ht]
  simp only [Int.ofNat_lt]

theorem vsize_add (v : BitVec 128) (n : Nat) (h : n < 2 ^ 32) :
    add_epi64 v (set1_epi32 (BitVec.ofNat 32 n)) =
      mk (hi64 v + ((BitVec.ofNat 64 n <<< 32) + BitVec.ofNat 64 n)) (lo64 v + ((BitVec.ofNat 64 n <<< 32) + BitVec.ofNat 64 n)) := by
  have : join32 (BitVec.ofNat 32 n) (BitVec.ofNat 32 n) = (BitVec.ofNat 64 n <<< 32) + BitVec.ofNat 64 n := by
    apply BitVec.eq_of_toNat_eq
    simp only [join32_eq_append, toNat_append_add, BitVec.toNat_add, BitVec.toNat_shiftLeft, BitVec.toNat_ofNat, Nat.shiftLeft_eq,
      Nat.mod_eq_of_lt h, Nat.mod_eq_of_lt (show n < 2 ^ 64 by omega)]
    omega
  rw [add_epi64, set1_epi32, mk32_eq_mk, lo64_mk, hi64_mk, this]

theorem lo64_srli (a : BitVec 128) (k : Nat) (h : ¬ k > 63) : lo64 (srli_epi64 a k) = lo64 a >>> k := by simp only [srli_epi64, h, ↓reduceIte, lo64_mk]
theorem hi64_srli (a : BitVec 128) (k : Nat) (h : ¬ k > 63) : hi64 (srli_epi64 a k) = hi64 a >>> k := by simp only [srli_epi64, h, ↓reduceIte, hi64_mk]
theorem lo64_slli (a : BitVec 128) (k : Nat) (h : ¬ k > 63) : lo64 (slli_epi64 a k) = lo64 a <<< k := by simp only [slli_epi64, h, ↓reduceIte, lo64_mk]
theorem hi64_slli (a : BitVec 128) (k : Nat) (h : ¬ k > 63) : hi64 (slli_epi64 a k) = hi64 a <<< k := by simp only [slli_epi64, h, ↓reduceIte, hi64_mk]
theorem lo64_shl64 (a : BitVec 128) : lo64 (a <<< 64) = 0 :=
  (lo64_extract _).trans (extractLsb'_shiftLeft_of_add_le _ _ _ _ (by decide))
theorem hi64_shl64 (a : BitVec 128) : hi64 (a <<< 64) = lo64 a := by
  rw [hi64_extract, extractLsb'_shiftLeft_of_le _ _ _ _ (Nat.le_refl _) (by decide), lo64_extract]
theorem lo64_slli8 (a : BitVec 128) : lo64 (slli_si128 a 8) = 0 := lo64_shl64 a
theorem hi64_slli8 (a : BitVec 128) : hi64 (slli_si128 a 8) = lo64 a := hi64_shl64 a
theorem lo64_unpacklo (a b : BitVec 128) : lo64 (unpacklo_epi64 a b) = lo64 a := by simp only [unpacklo_epi64, lo64_mk]
theorem hi64_unpacklo (a b : BitVec 128) : hi64 (unpacklo_epi64 a b) = lo64 b := by simp only [unpacklo_epi64, hi64_mk]
theorem lo64_cmpeq_self (x : BitVec 128) : lo64 (cmpeq_epi64 x x) = 0xFFFFFFFFFFFFFFFF#64 := by simp [cmpeq_epi64, cmpeq64]
theorem hi64_cmpeq_self (x : BitVec 128) : hi64 (cmpeq_epi64 x x) = 0xFFFFFFFFFFFFFFFF#64 := by simp [cmpeq_epi64, cmpeq64]
theorem lo64_zero : lo64 (0 : BitVec 128) = 0 := by decide
theorem hi64_zero : hi64 (0 : BitVec 128) = 0 := by decide
theorem signBit_lo : lo64 (insert_epi32 (0 : BitVec 128) 0x80000000#32 3) = 0 := by decide
theorem signBit_hi : hi64 (insert_epi32 (0 : BitVec 128) 0x80000000#32 3) = 0x8000000000000000#64 := by decide
theorem zero_mk32 : set_epi64x 0#64 0#64 = mk32 0#32 0#32 0#32 0#32 := by decide
theorem mask_lo : cvtsi64_si128 4294967295#64 = mk32 0#32 0#32 0#32 0xFFFFFFFF#32 := by decide
theorem mask_hi : slli_si128 (mk32 0#32 0#32 0#32 0xFFFFFFFF#32) 8 = mk32 0#32 0xFFFFFFFF#32 0#32 0#32 := by decide
theorem join32_zero : join32 0#32 0#32 = 0#64 := by decide
theorem add_self_shl (a : BitVec 64) : a + a = a <<< 1 := by
  rw [← BitVec.mul_two, BitVec.shiftLeft_eq_mul_twoPow]; rfl
theorem shl1_shl1 (a : BitVec 64) : (a <<< 1) <<< 1 = a <<< 2 := (BitVec.shiftLeft_add a 1 1).symm

theorem cat16 (f : Nat → BitVec 8) :
    f 15 ++ f 14 ++ f 13 ++ f 12 ++ f 11 ++ f 10 ++ f 9 ++ f 8 ++ f 7 ++ f 6 ++ f 5 ++ f 4 ++ f 3 ++ f 2 ++ f 1 ++ f 0
      = mk (le64 [f 8, f 9, f 10, f 11, f 12, f 13, f 14, f 15]) (le64 [f 0, f 1, f 2, f 3, f 4, f 5, f 6, f 7]) := by
  -- `simp` finds `append_assoc` only where the width is written as a sum, so say so for the outermost `++`
  show @Eq (BitVec _) _ ((f 15 ++ f 14 ++ f 13 ++ f 12 ++ f 11 ++ f 10 ++ f 9 ++ f 8) ++ (f 7 ++ f 6 ++ f 5 ++ f 4 ++ f 3 ++ f 2 ++ f 1 ++ f 0))
  simp only [BitVec.append_assoc, BitVec.cast_eq]

theorem byteOf_lanes (v : BitVec 128) (i : Nat) (h : i < 16) : Spec.byteOf (lo64 v) (hi64 v) i = byteAt v i := by
  unfold Spec.byteOf byteAt
  split
  · exact extract_lo64 v _ _ (by omega)
  · rw [extract_hi64 v _ _ (by omega)]; congr 1; omega

/-- `pshufb` with the zipper-merge control = the portable mask-and-shift formulas: both are the byte permutation
`Spec.zipTbl` (`P.zipLo_eq`, `P.zipHi_eq`) -/
theorem zipper_shuffle (v : BitVec 128) :
    shuffle_epi8 v (set_epi64x 0x070806090D0A040B#64 0x000F010E05020C03#64)
      = mk (P.zipHi (hi64 v) (lo64 v)) (P.zipLo (hi64 v) (lo64 v)) := by
  rw [← P.zipLo_eq, ← P.zipHi_eq]
  refine (cat16 fun i => pshufbByte v (byteAt (set_epi64x 0x070806090D0A040B#64 0x000F010E05020C03#64) i)).trans ?_
  simp only [Spec.zipper, Spec.zipTbl, List.map_cons, List.map_nil, List.take, List.drop, byteOf_lanes, Nat.reduceLT,
    pshufbByte, set_epi64x, mk, byteAt, BitVec.reduceAppend, BitVec.reduceExtractLsb', BitVec.reduceGetLsb,
    BitVec.reduceToNat, Nat.reduceMod, Nat.reduceMul, Bool.false_eq_true, ↓reduceIte]

theorem le64_join (l : List (BitVec 8)) : le64 l = join32 (le32 (l.drop 4)) (le32 l) := by
  have h (i : Nat) : (l.drop 4).getD i 0 = l.getD (4 + i) 0 := by
    simp only [List.getD_eq_getElem?_getD, List.getElem?_drop]
  rw [join32_eq_append, le32, le32, h, h, h, h, BitVec.append_assoc', BitVec.append_assoc', BitVec.append_assoc']
  rfl

theorem le32_cons4 (a b c d : BitVec 8) (r : List (BitVec 8)) : le32 (a :: b :: c :: d :: r) = le32 [a, b, c, d] := rfl
theorem ofBytes16_mk32 (l : List (BitVec 8)) :
    ofBytes16 l = mk32 (le32 (l.drop 12)) (le32 (l.drop 8)) (le32 (l.drop 4)) (le32 l) := by
  simp only [ofBytes16, le64_join, mk32_eq_mk, List.drop_drop]
theorem loadl_mk32 (mem : List (BitVec 8)) (off : Nat) : loadl_epi64 mem off = mk32 0 0 (le32 ((mem.drop off).drop 4)) (le32 (mem.drop off)) := by
  simp only [loadl_epi64, le64_join, mk_as_mk32, join32_lo, join32_hi]
  congr 1

/-- the three addends of `unordered_load3` occupy disjoint bytes, so the sum is the 64-bit lane `[a, b, c, 0, 0, 0, 0, 0]` -/
theorem load3_3 (a b c : BitVec 8) :
    a.setWidth 64 + (b.setWidth 64 <<< 8) + (c.setWidth 64 <<< 16) = join32 0#32 (le32 [a, b, c, 0#8]) := by
  apply BitVec.eq_of_toNat_eq
  simp only [join32_eq_append, le32, List.getD_cons_zero, List.getD_cons_succ, toNat_append_add, BitVec.toNat_add, BitVec.toNat_shiftLeft,
    BitVec.toNat_setWidth, BitVec.toNat_ofNat, Nat.shiftLeft_eq]
  omega

/-- the mask of `module_reduction` only removes bits that the shift drops anyway (`x <<< k = (x &&& allOnes) <<< k`) -/
theorem mask62_shl2 (x : BitVec 64) : (x &&& 0x3FFFFFFFFFFFFFFF#64) <<< 2 = x <<< 2 := by
  rw [BitVec.shiftLeft_and_distrib, show (0x3FFFFFFFFFFFFFFF#64) <<< 2 = BitVec.allOnes 64 <<< 2 by decide,
    ← BitVec.shiftLeft_and_distrib, BitVec.and_allOnes]
theorem mask62_shl1 (x : BitVec 64) : (x &&& 0x3FFFFFFFFFFFFFFF#64) <<< 1 = ~~~(0x8000000000000000#64) &&& (x <<< 1) := by
  rw [BitVec.shiftLeft_and_distrib,
    show (0x3FFFFFFFFFFFFFFF#64) <<< 1 = BitVec.allOnes 64 <<< 1 &&& ~~~(0x8000000000000000#64) by decide,
    ← BitVec.and_assoc, ← BitVec.shiftLeft_and_distrib, BitVec.and_allOnes, BitVec.and_comm]

/-- what every back end's `modular_reduction` computes on the lanes `xh:xl`, `ih:il` of its two arguments: the
shifts by one and two are done per lane, the bits crossing from `xl` to `xh` are added by `^^^`, which is `|||`
where no bits overlap, and bit 63 of `xh <<< 1` is cleared instead of bits 62 and 63 of `xh` beforehand.  The left sides
are the normal forms `simp` reaches in all four back ends: the `^^^ 0` and `~~~0 &&&` are the low lanes of the byte-shifted
carries and of the sign-bit mask. -/
theorem modLane (xh xl ih il : BitVec 64) :
    il ^^^ (xl <<< 2) ^^^ 0 ^^^ (~~~(0 : BitVec 64) &&& (xl <<< 1)) ^^^ 0 = (P.moduleReduction xh xl ih il).1 ∧
    ih ^^^ (xh <<< 2) ^^^ (xl >>> 62) ^^^ (~~~(0x8000000000000000#64) &&& (xh <<< 1)) ^^^ (xl >>> 63) = (P.moduleReduction xh xl ih il).2 := by
  unfold P.moduleReduction
  constructor
  · simp only [BitVec.ofNat_eq_ofNat, BitVec.xor_zero, BitVec.not_zero, BitVec.allOnes_and]
    ac_rfl
  · dsimp only
    rw [shl_or_shr _ xl 1 63 rfl, shl_or_shr _ xl 2 62 rfl, mask62_shl2, mask62_shl1]
    ac_rfl

end X86
end HH
