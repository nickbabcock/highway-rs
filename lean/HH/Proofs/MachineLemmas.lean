import HH.Machine
/-!
# Lemmas about the handle table, the constructors and `step`: frame property, locality
-/
namespace HH

namespace World
theorem get_del (w : World) (i j : Nat) :
    (w.del i).get j = if j = i then none else w.get j := by
  simp only [World.get, World.del, List.find?_filter]
  split
  · subst j
    rw [List.find?_eq_none.2 (fun p => by simp)]; rfl
  · congr 2; funext p
    by_cases hp : p.1 = j <;> simp [*]

theorem get_put (w : World) (i j : Nat) (x : Handle) :
    (w.put i x).get j = if j = i then some x else w.get j := by
  have d := get_del w i j
  by_cases h : j = i
  · subst h; simp [World.put, World.get]
  · simp only [h, ↓reduceIte] at d ⊢
    simpa [World.put, World.get, List.find?_cons, Ne.symm h] using d

theorem get_nil (j : Nat) : World.get [] j = none := rfl
end World

namespace Hasher
/-- every back end has a model: the constructors of `Hasher` are total -/
theorem new_total (b : Backend) (k : V4) : ∃ h, new b k = some h := by cases b <;> exact ⟨_, rfl⟩
theorem fromCheckpoint_total (b : Backend) (c : List (BitVec 8)) : ∃ h, fromCheckpoint b c = some h := by
  cases b <;> exact ⟨_, rfl⟩

/-- so a fact about `default` is the fact about `new` at the zero key -/
theorem default_eq_new (b : Backend) : default b = new b V4.zero := by cases b <;> rfl

variable {b : Backend} {h : Hasher}

theorem backend_new {k : V4} (e : new b k = some h) : h.backend = b := by cases b <;> cases e <;> rfl
theorem backend_fromCheckpoint {c : List (BitVec 8)} (e : fromCheckpoint b c = some h) : h.backend = b := by
  cases b <;> cases e <;> rfl
theorem backend_append (h : Hasher) (d : List (BitVec 8)) : (h.append d).backend = h.backend := by cases h <;> rfl
theorem backend_foldl (h : Hasher) (ws : List (List (BitVec 8))) : (ws.foldl append h).backend = h.backend := by
  induction ws generalizing h with
  | nil => rfl
  | cons c cs ih => exact (ih _).trans (backend_append h c)
end Hasher

theorem construct_eq_some {env : Env} {sel : Sel} {force restore : Bool} {mk : Backend → Option Hasher} {x : Handle}
    (h : construct env sel force restore mk = some x) :
    ∃ b hh, resolve env sel force restore = some b ∧ mk b = some hh ∧ x = mkHandle sel hh := by
  unfold construct at h
  split at h
  · rename_i b hb
    cases hm : mk b with
    | none => simp [hm] at h
    | some hh => exact ⟨b, hh, hb, hm, by simpa [hm] using h.symm⟩
  · cases h

/-! The two shapes that the branches of `step` have (all but `reset`, `hash` and `hashOne`, which touch no handle): look a
handle up and go on with what it holds, and install the outcome of a constructor call.  Definitionally they are the
`match`es of `step`, so a lemma about them applies to `step env w op` as it stands; each invariant of the machine
(`C10.AutoOK`, `Irrelevance.Wrel`) brings its own `lookup` / `install` lemma. -/

def World.lookup (w : World) (i : Nat) (k : Handle → World × Out) : World × Out :=
  match w.get i with
  | none => (w, .nohandle)
  | some x => k x

def World.install (w : World) (i : Nat) : Option Handle → World × Out
  | some x => (w.put i x, .ok)
  | none => (w.del i, .none)

/-- handles an operation reads or writes -/
def Op.handles : Op → List Nat
  | .reset => []
  | .new h _ _ _ => [h]
  | .default h _ => [h]
  | .restore h _ _ _ => [h]
  | .restoreH h _ _ src => [h, src]
  | .append h _ => [h]
  | .ioWrite h _ => [h]
  | .clone src dst => [src, dst]
  | .fin h _ => [h]
  | .ckpt h => [h]
  | .finish h => [h]
  | .flush h => [h]
  | .drop h => [h]
  | .debug h => [h]
  | .hash _ _ _ _ _ => []
  | .writes h _ => [h]
  | .hashOne _ _ => []

def Op.isReset : Op → Bool
  | .reset => true
  | _ => false

/-- operations taking the hasher by shared reference -/
def Op.isObserver : Op → Bool
  | .ckpt _ | .finish _ | .flush _ | .debug _ => true
  | _ => false

/-- frame property: an operation leaves every handle it does not name unchanged -/
theorem step_frame (env : Env) (w : World) (op : Op) (j : Nat) (hr : op.isReset = false) (hj : j ∉ op.handles) :
    (step env w op).1.get j = w.get j := by
  -- every branch of `step` returns `w`, `w.put i _` or `w.del i` with `i` one of the named handles
  cases op <;> simp only [Op.handles, List.mem_cons, List.not_mem_nil, or_false, not_or, Op.isReset, reduceCtorEq] at hj hr <;>
    simp only [step] <;> (repeat' split) <;> simp [World.get_put, World.get_del, hj]

theorem observer_world (env : Env) (w : World) (op : Op) (h : op.isObserver = true) : (step env w op).1 = w := by
  cases op <;> simp only [Op.isObserver, Bool.false_eq_true] at h <;> simp only [step] <;> split <;> rfl

/-- locality: the output and the new contents of the named handles depend only on the old
contents of the named handles -/
theorem step_local (env : Env) (w1 w2 : World) (op : Op) (hr : op.isReset = false)
    (agree : ∀ j ∈ op.handles, w1.get j = w2.get j) :
    (step env w1 op).2 = (step env w2 op).2 ∧
    ∀ j ∈ op.handles, (step env w1 op).1.get j = (step env w2 op).1.get j := by
  -- `step` reads the worlds only at the named handles: after rewriting with `agree` both runs take the same branches
  cases op <;> simp only [Op.handles, List.mem_cons, List.not_mem_nil, or_false, forall_eq_or_imp, forall_eq, Op.isReset,
      reduceCtorEq, false_imp_iff, implies_true] at agree hr ⊢ <;>
    simp only [step, agree] <;> (repeat' split) <;> simp [World.get_put, World.get_del, agree]

/-- frame and locality together, for a set `S` of handles that holds the named ones -/
theorem step_agree (env : Env) {w w' : World} {op : Op} {S : Nat → Prop} (hr : op.isReset = false)
    (hS : ∀ j ∈ op.handles, S j) (agree : ∀ j, S j → w.get j = w'.get j) :
    (step env w op).2 = (step env w' op).2 ∧ ∀ j, S j → (step env w op).1.get j = (step env w' op).1.get j := by
  have loc := step_local env w w' op hr fun j hj => agree j (hS j hj)
  refine ⟨loc.1, fun j hj => ?_⟩
  by_cases hm : j ∈ op.handles
  · exact loc.2 j hm
  · rw [step_frame env w op j hr hm, step_frame env w' op j hr hm]; exact agree j hj

theorem run_append (env : Env) (w : World) (ops1 ops2 : List Op) :
    (run env w (ops1 ++ ops2)).2 = (run env w ops1).2 ++ (run env (run env w ops1).1 ops2).2 ∧
    (run env w (ops1 ++ ops2)).1 = (run env (run env w ops1).1 ops2).1 := by
  induction ops1 generalizing w with
  | nil => simp [run]
  | cons o os ih =>
    have := ih (step env w o).1
    simp only [List.cons_append, run]
    exact ⟨by rw [this.1], this.2⟩

end HH
