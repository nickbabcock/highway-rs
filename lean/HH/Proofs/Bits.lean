/-!
# Bit-vector facts that core does not have

Slices of shifted words, the halves of a shifted double word, `++` as arithmetic.  Nothing here mentions the hash.
-/
namespace HH
namespace Bits

theorem extractLsb'_ushiftRight {w : Nat} (x : BitVec w) (s n j : Nat) : (x >>> j).extractLsb' s n = x.extractLsb' (j + s) n := by
  apply BitVec.eq_of_getLsbD_eq
  intro i hi
  simp only [BitVec.getLsbD_extractLsb', BitVec.getLsbD_ushiftRight, Nat.add_assoc]

theorem extractLsb'_shiftLeft_of_le {w : Nat} (x : BitVec w) (s n j : Nat) (h : j ≤ s) (hw : s + n ≤ w) :
    (x <<< j).extractLsb' s n = x.extractLsb' (s - j) n := by
  apply BitVec.eq_of_getLsbD_eq
  intro i hi
  have h1 : s + i < w := by omega
  have h2 : ¬ s + i < j := by omega
  have h3 : s + i - j = s - j + i := by omega
  simp only [BitVec.getLsbD_extractLsb', BitVec.getLsbD_shiftLeft, h1, h2, h3, decide_true, decide_false, Bool.not_false, Bool.true_and]

theorem extractLsb'_shiftLeft_of_add_le {w : Nat} (x : BitVec w) (s n j : Nat) (h : s + n ≤ j) :
    (x <<< j).extractLsb' s n = 0#n := by
  apply BitVec.eq_of_getLsbD_eq
  intro i hi
  have h2 : s + i < j := by omega
  simp only [BitVec.getLsbD_extractLsb', BitVec.getLsbD_shiftLeft, h2, decide_true, Bool.not_true, Bool.and_false, Bool.false_and,
    BitVec.getLsbD_zero]

theorem cat8_extract (x : BitVec 64) :
    x.extractLsb' 56 8 ++ x.extractLsb' 48 8 ++ x.extractLsb' 40 8 ++ x.extractLsb' 32 8 ++
      x.extractLsb' 24 8 ++ x.extractLsb' 16 8 ++ x.extractLsb' 8 8 ++ x.extractLsb' 0 8 = x := by
  simp (disch := decide) only [BitVec.extractLsb'_append_extractLsb'_eq_extractLsb']
  exact BitVec.extractLsb'_eq_self

theorem cat4_extract (x : BitVec 32) : x.extractLsb' 24 8 ++ x.extractLsb' 16 8 ++ x.extractLsb' 8 8 ++ x.extractLsb' 0 8 = x := by
  simp (disch := decide) only [BitVec.extractLsb'_append_extractLsb'_eq_extractLsb']
  exact BitVec.extractLsb'_eq_self

theorem and_ones8 (x : BitVec 8) : x &&& 255#8 = x := BitVec.and_allOnes

/-! A double word `h ++ l` shifted left by `k ≤ w`: the low half is `l <<< k`, the high half takes the top `k` bits
of `l` in. -/

theorem hi_append {w : Nat} (h l : BitVec w) : ((h ++ l) >>> w).setWidth w = h := by
  rw [BitVec.setWidth_ushiftRight_eq_extractLsb, BitVec.extractLsb'_append_eq_left]

theorem lo_shiftLeft_append {w : Nat} (h l : BitVec w) (k : Nat) : ((h ++ l) <<< k).setWidth w = l <<< k := by
  rw [BitVec.setWidth_shiftLeft_of_le (Nat.le_add_left w w), BitVec.setWidth_append_eq_right]

theorem hi_shiftLeft_append {w : Nat} (h l : BitVec w) (k : Nat) (hk : k ≤ w) :
    (((h ++ l) <<< k) >>> w).setWidth w = h <<< k ||| l >>> (w - k) := by
  ext i hi
  simp only [BitVec.getElem_setWidth, BitVec.getLsbD_ushiftRight, BitVec.getLsbD_shiftLeft, BitVec.getLsbD_append, BitVec.getElem_or,
    BitVec.getElem_shiftLeft, BitVec.getElem_ushiftRight]
  have h1 : w + i < w + w := by omega
  have h3 : ¬ w + i < k := by omega
  by_cases c : i < k
  · have h2 : w - k + i < w := by omega
    have h4 : w + i - k = w - k + i := by omega
    simp [h1, h2, h3, h4, c]
  · have h2 : ¬ w + i - k < w := by omega
    have h4 : w + i - k - w = i - k := by omega
    have h5 : l.getLsbD (w - k + i) = false := BitVec.getLsbD_of_ge _ _ (by omega)
    simp [h1, h2, h3, h4, h5, c, BitVec.getLsbD_eq_getElem (show i - k < w by omega)]

/-- no bit of `y <<< k` meets a bit of `x >>> j` when `k + j` is the width -/
theorem shl_or_shr {w : Nat} (y x : BitVec w) (k j : Nat) (h : k + j = w) : (y <<< k) ||| (x >>> j) = (y <<< k) ^^^ (x >>> j) := by
  ext i hi
  simp only [BitVec.getElem_or, BitVec.getElem_xor, BitVec.getElem_shiftLeft, BitVec.getElem_ushiftRight]
  by_cases c : i < k
  · simp [c]
  · have : x.getLsbD (j + i) = false := BitVec.getLsbD_of_ge _ _ (by omega)
    simp [c, this]

/-- a rotation written with a right shift by `w - n` or by `(w - n) % w`: they differ at `n = 0` only, where one shift
gives 0 and the other `x`, and `x ||| 0 = x ||| x` -/
theorem shl_or_shr_mod {w : Nat} (x : BitVec w) (n : Nat) (h : n < w) :
    x <<< n ||| x >>> ((w - n) % w) = x <<< n ||| x >>> (w - n) := by
  by_cases h0 : n = 0
  · subst h0
    rw [Nat.sub_zero, Nat.mod_self, BitVec.ushiftRight_eq_zero (Nat.le_refl w), BitVec.shiftLeft_zero, BitVec.ushiftRight_zero,
      BitVec.or_zero, BitVec.or_self]
  · rw [Nat.mod_eq_of_lt (by omega)]

/-- `k - n` computed as `k + (-n)` in arithmetic modulo `m`: the wrapped `32 - count` of the rotations -/
theorem wrap_sub {m k n : Nat} (h : n ≤ k) (hk : k < m) : (m + k - n) % m = k - n := by
  rw [Nat.add_sub_assoc h, Nat.add_mod_left, Nat.mod_eq_of_lt (Nat.lt_of_le_of_lt (Nat.sub_le k n) hk)]

theorem toNat_append_add {m n : Nat} (x : BitVec m) (y : BitVec n) : (x ++ y).toNat = x.toNat * 2 ^ n + y.toNat := by
  rw [BitVec.toNat_append, ← Nat.shiftLeft_add_eq_or_of_lt y.isLt, Nat.shiftLeft_eq]

end Bits
end HH
