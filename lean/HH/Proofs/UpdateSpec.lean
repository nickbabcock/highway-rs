import HH.Portable
import HH.Spec
import HH.Proofs.Bits
/-!
# `PortableHash::update` is the specification's `Update`

The mask-and-shift formulas of `zipper_merge_and_add` are the byte permutation of the specification, `mul32` is the
32×32-bit multiply; the SIMD shuffles and multiplies are compared with the same byte permutation through `zipLo_eq` /
`zipHi_eq` / `mask32_eq`.  `rot32Lane_eq` is here because the portable chain and all four back ends start from it.
-/
namespace HH
namespace P

/- Both sides byte by byte: a byte of a mask-and-shift term of `zipLo`/`zipHi` is a byte of `lo`, a byte of `hi`,
or 0. -/

theorem zipper_eq (lo hi : BitVec 64) : Spec.zipper lo hi = (zipLo hi lo, zipHi hi lo) := by
  rw [← Bits.cat8_extract (zipLo hi lo), ← Bits.cat8_extract (zipHi hi lo)]
  simp (disch := decide) only [Spec.zipper, Spec.zipTbl, Spec.byteOf, List.map_cons, List.map_nil, List.take, List.drop, le64,
    List.getD_cons_zero, List.getD_cons_succ, zipLo, zipHi,
    BitVec.extractLsb'_or, BitVec.extractLsb'_and, Bits.extractLsb'_ushiftRight, Bits.extractLsb'_shiftLeft_of_le,
    Bits.extractLsb'_shiftLeft_of_add_le, BitVec.reduceExtractLsb', Nat.reduceAdd, Nat.reduceSub, Nat.reduceMul, Nat.reduceLT, ↓reduceIte,
    Bits.and_ones8, BitVec.and_zero, BitVec.or_zero, BitVec.zero_or]

theorem zipLo_eq (lo hi : BitVec 64) : (Spec.zipper lo hi).1 = zipLo hi lo := congrArg Prod.fst (zipper_eq lo hi)
theorem zipHi_eq (lo hi : BitVec 64) : (Spec.zipper lo hi).2 = zipHi hi lo := congrArg Prod.snd (zipper_eq lo hi)

theorem mask32_eq (a : BitVec 64) : (a.setWidth 32).setWidth 64 = a &&& 0xffffffff#64 := by
  apply BitVec.eq_of_toNat_eq
  simp only [BitVec.toNat_setWidth, BitVec.toNat_and, BitVec.toNat_ofNat]
  have h : (4294967295 : Nat) % 2 ^ 64 = 2 ^ 32 - 1 := by decide
  rw [h, Nat.and_two_pow_sub_one_eq_mod]
  have : a.toNat % 2 ^ 32 < 2 ^ 64 := Nat.lt_of_lt_of_le (Nat.mod_lt _ (by decide)) (by decide)
  exact Nat.mod_eq_of_lt this

theorem mul32_eq (a b : BitVec 64) : Spec.mul32 a b = mul32 a b := by
  unfold Spec.mul32 mul32; rw [mask32_eq]

theorem zipperAdd_eq (d s : V4) : zipperAdd d s = V4.add d (Spec.zipperV s) := by
  simp [zipperAdd, Spec.zipperV, zipper_eq, V4.add, V4.zipWith]

theorem update_eq_spec (s : St) (l : V4) : update s l = Spec.update s l := by
  have hm : Spec.mul32 = mul32 := by funext a b; exact mul32_eq a b
  simp only [update, Spec.update, zipperAdd_eq, hm]
  have : V4.add (V4.add s.v1 l) s.mul0 = V4.add (V4.add s.v1 s.mul0) l := by
    simp only [V4.add, V4.zipWith, V4.mk.injEq]
    refine ⟨?_, ?_, ?_, ?_⟩ <;> ac_rfl
  rw [this]

/-- `rotate_32_by` with its shift counts reduced: the wrapped `32 - count` taken modulo 32 differs from `32 - n` at `n = 0`
only, where `|||` does not see the difference.  The right side is `X86.join32 (X86.rot32 n hi) (X86.rot32 n lo)` written out -/
theorem rot32Lane_eq (n : Nat) (h : n < 32) (x : BitVec 64) :
    rot32Lane n x = (x.setWidth 32 <<< n ||| x.setWidth 32 >>> (32 - n)).setWidth 64 |||
      (((x >>> 32).setWidth 32 <<< n ||| (x >>> 32).setWidth 32 >>> (32 - n)).setWidth 64 <<< 32) := by
  have hcl : n % 32 = n := Nat.mod_eq_of_lt h
  simp only [rot32Lane, hcl, Bits.wrap_sub (Nat.le_of_lt h) (by decide : 32 < 2 ^ 64), Bits.shl_or_shr_mod _ n h]

end P
end HH
