import HH.Neon
import HH.Proofs.RemLanes
import HH.Proofs.Refine
/-!
# The NEON model refines the portable model (step lemmas, valid for ALL register states)
-/
namespace HH
namespace Neon

/-! the register views of the NEON model are literally those of the x86 model: reuse its lane kit -/
theorem lo64_eq (r : BitVec 128) : lo64 r = X86.lo64 r := rfl
theorem hi64_eq (r : BitVec 128) : hi64 r = X86.hi64 r := rfl
theorem mk_eq (h l : BitVec 64) : mk h l = X86.mk h l := rfl
theorem mk32_eq (d c b a : BitVec 32) : mk32 d c b a = X86.mk32 d c b a := rfl
theorem lane32_eq (r : BitVec 128) (i : Nat) : lane32 r i = X86.lane32 r i := rfl

@[simp] theorem lo64_mk (h l : BitVec 64) : lo64 (mk h l) = l := X86.lo64_mk h l
@[simp] theorem hi64_mk (h l : BitVec 64) : hi64 (mk h l) = h := X86.hi64_mk h l
theorem mk_lo_hi (r : BitVec 128) : mk (hi64 r) (lo64 r) = r := X86.mk_lo_hi r
@[simp] theorem lo64_eor (a b : BitVec 128) : lo64 (veorq_u64 a b) = lo64 a ^^^ lo64 b := X86.lo64_xor a b
@[simp] theorem hi64_eor (a b : BitVec 128) : hi64 (veorq_u64 a b) = hi64 a ^^^ hi64 b := X86.hi64_xor a b
@[simp] theorem lo64_add (a b : BitVec 128) : lo64 (vaddq_u64 a b) = lo64 a + lo64 b := by simp [vaddq_u64]
@[simp] theorem hi64_add (a b : BitVec 128) : hi64 (vaddq_u64 a b) = hi64 a + hi64 b := by simp [vaddq_u64]
@[simp] theorem lo64_ld (e0 e1 : BitVec 64) : lo64 (vld1q_u64 e0 e1) = e0 := by simp [vld1q_u64]
@[simp] theorem hi64_ld (e0 e1 : BitVec 64) : hi64 (vld1q_u64 e0 e1) = e1 := by simp [vld1q_u64]

theorem vmull_lanes (a b : BitVec 128) :
    vmull_u32 (vmovn_u64 a) (vshrn_n_u64 b 32) = mk (P.mul32 (hi64 a) (hi64 b)) (P.mul32 (lo64 a) (lo64 b)) := by
  simp only [vmull_u32, vmovn_u64, vshrn_n_u64, P.mul32, ← X86.join32_eq_append, X86.join32_lo, X86.join32_hi, P.mask32_eq,
    X86.shr32_low]

theorem vrev_rot (v : BitVec 128) : vrev64q_u32 v = mk ((hi64 v).rotateLeft 32) ((lo64 v).rotateLeft 32) := by
  have : vrev64q_u32 v = X86.shuffle_epi32 v 177 := by
    simp only [vrev64q_u32, X86.shuffle_epi32, mk32_eq, lane32_eq, Nat.reduceShiftRight, Nat.reduceMod]
  rw [this, X86.shuffle_epi32_rot]; rfl

/-! `USHL` reads the low byte of each count lane as a signed number: `count` stays `count`, `count - 32` (as i32)
becomes negative, i.e. a right shift by `32 - count`. -/

theorem count_toInt (n : Nat) (h : n < 32) : ((BitVec.ofNat 32 n).setWidth 8).toInt = (n : Int) := by
  have e : ((BitVec.ofNat 32 n).setWidth 8).toNat = n := by
    rw [BitVec.toNat_setWidth, BitVec.toNat_ofNat]; omega
  rw [BitVec.toInt_eq_toNat_of_lt (by omega), e]
theorem count_sub32_toInt (n : Nat) (h : n < 32) : ((BitVec.ofNat 32 (n + (2 ^ 32 - 32))).setWidth 8).toInt = (n : Int) - 32 := by
  have e : ((BitVec.ofNat 32 (n + (2 ^ 32 - 32))).setWidth 8).toNat = n + 224 := by
    rw [BitVec.toNat_setWidth, BitVec.toNat_ofNat]; omega
  have : ¬ 2 * (n + 224) < 2 ^ 8 := by omega
  rw [BitVec.toInt_eq_toNat_cond, e]
  simp only [this, ↓reduceIte]; omega
theorem ushl_left (a : BitVec 32) (n : Nat) (h : n < 32) : ushl32 a (BitVec.ofNat 32 n) = a <<< n := by
  have h1 : (n : Int) ≥ 0 := by omega
  have h2 : ¬ (n : Int) ≥ 32 := by omega
  simp only [ushl32, count_toInt n h, h1, h2, ↓reduceIte, Int.toNat_natCast]
theorem ushl_right (a : BitVec 32) (n : Nat) (h : n < 32) :
    ushl32 a (BitVec.ofNat 32 (n + (2 ^ 32 - 32))) = a >>> (32 - n) := by
  have h1 : ¬ ((n : Int) - 32 ≥ 0) := by omega
  have h3 : (-((n : Int) - 32)).toNat = 32 - n := by omega
  simp only [ushl32, count_sub32_toInt n h, h1, ↓reduceIte, h3]
  split
  · rw [BitVec.ushiftRight_eq_zero (by omega)]; rfl
  · rfl
end Neon

namespace NeonB
open Neon

theorem zipper_lanes (v : BitVec 128) :
    zipperMerge v = mk (P.zipHi (hi64 v) (lo64 v)) (P.zipLo (hi64 v) (lo64 v)) := by
  rw [← P.zipLo_eq, ← P.zipHi_eq]
  refine (X86.cat16 fun i => tblByte v (byteAt (vld1q_u8 [3, 12, 2, 5, 14, 1, 15, 0, 11, 4, 10, 13, 9, 6, 8, 7] 0) i)).trans ?_
  have hidx : vld1q_u8 [3, 12, 2, 5, 14, 1, 15, 0, 11, 4, 10, 13, 9, 6, 8, 7] 0 = 0x070806090D0A040B000F010E05020C03#128 := by decide
  simp only [Spec.zipper, Spec.zipTbl, List.map_cons, List.map_nil, List.take, List.drop, lo64_eq, hi64_eq, mk_eq, X86.byteOf_lanes,
    Nat.reduceLT, hidx, tblByte, byteAt, X86.byteAt, BitVec.reduceExtractLsb', BitVec.reduceToNat, ↓reduceIte, Nat.reduceMul]

def lanesOfRegs (pH pL : BitVec 128) : V4 := ⟨lo64 pL, hi64 pL, lo64 pH, hi64 pH⟩

theorem update_refines (r : Regs) (pH pL : BitVec 128) :
    toPortable (update r pH pL) = P.update (toPortable r) (lanesOfRegs pH pL) := by
  simp only [update, toPortable, P.update, lanesOfRegs, zipper_lanes, vmull_lanes, lo64_add, hi64_add, lo64_eor, hi64_eor,
    lo64_mk, hi64_mk, V4.add, V4.xor, V4.zipWith, P.zipperAdd]

theorem loadu_lanes (pkt : List (BitVec 8)) :
    lanesOfRegs (vld1q_u8 pkt 16) (vld1q_u8 pkt 0) = P.dataToLanes pkt := by
  simp [lanesOfRegs, vld1q_u8, P.dataToLanes]

theorem updPacket_refines (r : Regs) (pkt : List (BitVec 8)) :
    toPortable (updPacket r pkt) = P.updPacket (toPortable r) pkt := by
  simp only [updPacket, update_refines, loadu_lanes, P.updPacket]

theorem permuteAndUpdate_refines (r : Regs) :
    toPortable (permuteAndUpdate r) = P.permuteAndUpdate (toPortable r) := by
  simp only [permuteAndUpdate, update_refines, P.permuteAndUpdate]
  congr 1
  simp [lanesOfRegs, rotateBy32, vrev_rot, P.permute, toPortable]

theorem rounds_refines (n : Nat) (r : Regs) : toPortable (rounds n r) = P.rounds n (toPortable r) := by
  induction n generalizing r with
  | zero => rfl
  | succ n ih => rw [rounds, P.rounds, ih, permuteAndUpdate_refines]

theorem toPortable_fromPortable (p : St) : toPortable (fromPortable p) = p := by
  simp [toPortable, fromPortable, v2new]

theorem fromPortable_toPortable (r : Regs) : fromPortable (toPortable r) = r := by
  simp [toPortable, fromPortable, v2new, vld1q_u64, mk_lo_hi]

theorem new_refines (k : V4) : toPortable (new k).r = (P.new k).st := by
  simp [new, toPortable, P.new, rotateBy32, vrev_rot, init0L, init0H, init1L, init1H, P.init0, P.init1, v2new,
    V4.zipWith, V4.map]
  refine ⟨⟨?_, ?_, ?_, ?_⟩, ⟨?_, ?_, ?_, ?_⟩⟩ <;> exact BitVec.xor_comm _ _

theorem lo64_shr (a : BitVec 128) (k : Nat) : lo64 (vshrq_n_u64 a k) = lo64 a >>> k := by simp only [vshrq_n_u64, lo64_mk]
theorem hi64_shr (a : BitVec 128) (k : Nat) : hi64 (vshrq_n_u64 a k) = hi64 a >>> k := by simp only [vshrq_n_u64, hi64_mk]
theorem dup0 : vdupq_n_u8 0 = 0#128 := by decide
theorem slli8_eq (a : BitVec 128) : slli8 a = a <<< 64 := by
  simp only [slli8, vextq_u8, dup0, Nat.reduceMul, Nat.reduceSub, BitVec.zero_ushiftRight, BitVec.zero_or]
theorem lo64_slli8 (a : BitVec 128) : lo64 (slli8 a) = 0 := by rw [slli8_eq]; exact X86.lo64_shl64 a
theorem hi64_slli8 (a : BitVec 128) : hi64 (slli8 a) = lo64 a := by rw [slli8_eq]; exact X86.hi64_shl64 a
theorem lo64_andNot (a b : BitVec 128) : lo64 (andNot a b) = ~~~(lo64 b) &&& lo64 a := by
  rw [andNot, vbicq_u64, BitVec.and_comm]; exact X86.lo64_andnot b a
theorem hi64_andNot (a b : BitVec 128) : hi64 (andNot a b) = ~~~(hi64 b) &&& hi64 a := by
  rw [andNot, vbicq_u64, BitVec.and_comm]; exact X86.hi64_andnot b a
theorem signBit_lo : lo64 (vsetq_lane_u32 0x80000000#32 (vdupq_n_u32 0) 3) = 0 := by decide
theorem signBit_hi : hi64 (vsetq_lane_u32 0x80000000#32 (vdupq_n_u32 0) 3) = 0x8000000000000000#64 := by decide

theorem v2new_mk32 (h l : BitVec 64) :
    v2new h l = X86.mk32 ((h >>> 32).setWidth 32) (h.setWidth 32) ((l >>> 32).setWidth 32) (l.setWidth 32) := by
  simp only [v2new, vld1q_u64, mk_eq, X86.mk_as_mk32]
theorem mask_lo : v2new 0 0xFFFFFFFF#64 = X86.mk32 0 0 0 0xFFFFFFFF#32 := by decide
theorem slli8_mk32 (d c b a : BitVec 32) : slli8 (X86.mk32 d c b a) = X86.mk32 b a 0 0 := by
  apply X86.ext128
  · have := lo64_slli8 (X86.mk32 d c b a)
    simp only [lo64_eq] at this
    rw [this, X86.lo64_mk32]; exact X86.join32_zero.symm
  · have := hi64_slli8 (X86.mk32 d c b a)
    simp only [lo64_eq, hi64_eq] at this
    rw [this, X86.hi64_mk32, X86.lo64_mk32]
theorem zero_mk32 : v2new 0 0 = X86.mk32 0 0 0 0 := by decide
theorem dup_mk32 (x : BitVec 32) : vdupq_n_u32 x = X86.mk32 x x x x := rfl
theorem and_mk32 (d c b a d' c' b' a' : BitVec 32) :
    vandq_u64 (X86.mk32 d c b a) (X86.mk32 d' c' b' a') = X86.mk32 (d &&& d') (c &&& c') (b &&& b') (a &&& a') := X86.and_mk32 ..
theorem or_mk32 (d c b a d' c' b' a' : BitVec 32) :
    vorrq_u64 (X86.mk32 d c b a) (X86.mk32 d' c' b' a') = X86.mk32 (d ||| d') (c ||| c') (b ||| b') (a ||| a') := X86.or_mk32 ..
theorem le64_lo (l : List (BitVec 8)) : (le64 l).setWidth 32 = le32 l := by rw [X86.le64_join, X86.join32_lo]
theorem le64_hi (l : List (BitVec 8)) : ((le64 l) >>> 32).setWidth 32 = le32 (l.drop 4) := by rw [X86.le64_join, X86.join32_hi]
theorem z32a : ((0 : BitVec 64) >>> 32).setWidth 32 = (0 : BitVec 32) := by decide
theorem z32b : (0 : BitVec 64).setWidth 32 = (0 : BitVec 32) := by decide

open X86 in
/-- NEON tests bit 2 of the whole `size`, not of the sub-slice length: the callers pass `len = size` or `size - 16`,
for which the two bits agree. -/
theorem loadMultipleOfFour_eq (mem : List (BitVec 8)) (off len size : Nat) (h : len < 16) (hs : size = len ∨ size = len + 16) :
    loadMultipleOfFour mem off len size = loadGroups mem off len := by
  have hb : (size / 4) % 2 = 1 ↔ (4 ≤ len ∧ len < 8) ∨ 12 ≤ len := by omega
  unfold loadMultipleOfFour loadGroups
  simp only [mask_lo, zero_mk32, hb]
  by_cases h8 : len ≥ 8
  · have h4 : 4 ≤ len := by omega
    have n8 : ¬ len < 8 := by omega
    by_cases h12 : 12 ≤ len
    · simp only [BitVec.ofNat_eq_ofNat, h8, h12, h4, or_true, ↓reduceIte, slli8_mk32, v2new_mk32, dup_mk32, and_mk32, or_mk32, le64_lo, le64_hi,
        BitVec.zero_ushiftRight, BitVec.setWidth_zero, List.drop_drop, BitVec.and_zero, BitVec.zero_or, BitVec.or_zero, and_ones32]
    · simp only [BitVec.ofNat_eq_ofNat, h8, h12, h4, n8, and_false, or_self, ↓reduceIte, v2new_mk32, le64_lo, le64_hi, BitVec.zero_ushiftRight,
        BitVec.setWidth_zero, List.drop_drop]
  · have h12 : ¬ 12 ≤ len := by omega
    have l8 : len < 8 := by omega
    by_cases h4 : len ≥ 4
    · simp only [BitVec.ofNat_eq_ofNat, h8, h12, h4, l8, and_self, or_false, ↓reduceIte, dup_mk32, and_mk32, or_mk32, BitVec.and_zero,
        BitVec.zero_or, and_ones32]
    · simp only [BitVec.ofNat_eq_ofNat, h8, h12, h4, false_and, or_self, ↓reduceIte]

theorem remainder_eq (buf : List (BitVec 8)) (n : Nat) (h : n < 32) : remainder buf n = X86.remRegs buf n := by
  have ld : vld1q_u8 buf 0 = X86.ofBytes16 buf := by simp only [vld1q_u8, X86.ofBytes16, mk_eq, Nat.zero_add, List.drop_zero]
  have sl (x : BitVec 32) (v : BitVec 128) : vsetq_lane_u32 x v 3 = X86.insert_epi32 v x 3 := rfl
  simp only [remainder, X86.remRegs, bit16 h, stragglers_end]
  split
  · rw [loadMultipleOfFour_eq buf 16 (n - 16) n (by omega) (by omega), ld, sl]
  · rw [loadMultipleOfFour_eq buf 0 n n (by omega) (.inl rfl)]; rfl

theorem remainder_refines (buf : List (BitVec 8)) (n : Nat) (hb : buf.length = 32) (h : n < 32) :
    lanesOfRegs (remainder buf n).1 (remainder buf n).2 = P.dataToLanes (P.remainder (buf.take n)) := by
  rw [remainder_eq buf n h]; exact X86.remRegs_lanes buf n (by omega) h

theorem vsize_add (v : BitVec 128) (n : Nat) (h : n < 32) :
    vaddq_u64 v (vdupq_n_u32 (BitVec.ofNat 32 n)) =
      mk (hi64 v + ((BitVec.ofNat 64 n <<< 32) + BitVec.ofNat 64 n)) (lo64 v + ((BitVec.ofNat 64 n <<< 32) + BitVec.ofNat 64 n)) :=
  X86.vsize_add v n (Nat.lt_trans h (by decide))

theorem rotate32By_lanes (v : BitVec 128) (n : Nat) (h : n < 32) :
    rotate32By v n = mk (P.rot32Lane n (hi64 v)) (P.rot32Lane n (lo64 v)) := by
  simp only [rotate32By, vshlq_u32, dup_mk32, lane32_eq, X86.lane32_mk32, ushl_left _ n h, ushl_right _ n h, mk32_eq, vorrq_u64]
  exact (X86.or_mk32 ..).trans (X86.rot_lanes v n h)

theorem updateRemainder_refines (x : State) (hx : x.buffer.Inv) :
    toPortable (updateRemainder x) =
      P.update (P.updateLanes (toPortable x.r) x.buffer.idx) (P.dataToLanes (P.remainder (x.buffer.buf.take x.buffer.idx))) := by
  obtain ⟨hi, hb⟩ := hx
  simp only [updateRemainder, update_refines, remainder_refines _ _ hb hi, Pkt.len]
  congr 1
  simp only [toPortable, P.updateLanes, vsize_add _ _ hi, rotate32By_lanes _ _ hi, lo64_mk, hi64_mk, V4.map]

theorem modularReduction_lanes (x init : BitVec 128) :
    lo64 (modularReduction x init) = (P.moduleReduction (hi64 x) (lo64 x) (hi64 init) (lo64 init)).1 ∧
    hi64 (modularReduction x init) = (P.moduleReduction (hi64 x) (lo64 x) (hi64 init) (lo64 init)).2 := by
  simp only [modularReduction, lo64_eor, hi64_eor, lo64_slli8, hi64_slli8, lo64_shr, lo64_andNot, hi64_andNot, lo64_add, hi64_add,
    X86.add_self_shl, X86.shl1_shl1, signBit_lo, signBit_hi]
  exact X86.modLane (hi64 x) (lo64 x) (hi64 init) (lo64 init)

theorem refines : Refines toPortable updPacket rounds (fun r p => updateRemainder ⟨r, p⟩) :=
  ⟨updPacket_refines, rounds_refines, fun r p hp => updateRemainder_refines ⟨r, p⟩ hp⟩

def abs (x : State) : St × List (BitVec 8) := (toPortable x.r, x.buffer.asSlice)

theorem finalizeCommon_refines (n : Nat) (x : State) (hx : x.buffer.Inv) : toPortable (finalizeCommon n x) = P.finAbs n (abs x) :=
  refines.finalizeCommon n x.r x.buffer hx

theorem finalize64_refines (x : State) (hx : x.buffer.Inv) : finalize64 x = P.out64 (P.finAbs 4 (abs x)) := by
  rw [← finalizeCommon_refines 4 x hx]
  simp only [finalize64, vst1q_u64, lo64_add, P.out64, toPortable]
  ac_rfl

theorem finalize128_refines (x : State) (hx : x.buffer.Inv) : finalize128 x = P.out128 (P.finAbs 6 (abs x)) := by
  rw [← finalizeCommon_refines 6 x hx]
  simp only [finalize128, vst1q_u64, lo64_add, hi64_add, P.out128, toPortable, Prod.mk.injEq]
  constructor <;> ac_rfl

theorem finalize256_refines (x : State) (hx : x.buffer.Inv) : finalize256 x = P.out256 (P.finAbs 10 (abs x)) := by
  rw [← finalizeCommon_refines 10 x hx]
  simp only [finalize256, P.out256, toPortable, modularReduction_lanes, lo64_add, hi64_add]

end NeonB
end HH
