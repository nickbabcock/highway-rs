import HH.Footprint
import HH.Proofs.AvxRefine
/-!
# C09 — memory safety and address independence (access-pattern model)

`expose bytes rest` is a memory region whose first `bytes.length` bytes are the slice the code was
given and whose continuation `rest` is ARBITRARY: unmapped (`none`), or any other bytes.  The
theorems state that every raw-pointer access of the back ends stays inside the slice (no fault for
any `rest`, in particular for `rest = none :: _`, a slice that abuts an inaccessible page) and that
the value read is the value-level model's — which has no access to `rest`, to addresses or to
alignment.  Hence results depend neither on where the data lives nor on neighbouring memory.
The aligned loads of the AVX2 back end additionally need the stated alignment of the hasher's own
buffer / key; the harness measures those layout facts in every build (see DESIGN.md, C09).

The proofs use such a region only through `Exposes`; the `*_remainder_in_bounds` theorems are instances of the
`*_remainder_exposed` ones.
-/
namespace HH.C09
open FP

def expose (bytes : List (BitVec 8)) (rest : Mem) : Mem := bytes.map some ++ rest

theorem allSome_map_some (l : List (BitVec 8)) : allSome (l.map some) = some l := by
  induction l with
  | nil => rfl
  | cons a l ih => simp [allSome, ih]

theorem getD_expose (bytes : List (BitVec 8)) (rest : Mem) {i : Nat} (h : i < bytes.length) :
    (expose bytes rest).getD i none = some bytes[i] := by
  rw [expose, List.getD_eq_getElem?_getD, List.getElem?_append_left (by rwa [List.length_map]), List.getElem?_map,
    List.getElem?_eq_getElem h]; rfl

theorem readN_expose (bytes : List (BitVec 8)) (rest : Mem) {off n : Nat} (h : off + n ≤ bytes.length) :
    readN (expose bytes rest) off n = some ((bytes.drop off).take n) := by
  rw [readN, ← allSome_map_some]
  congr 1
  apply List.ext_getElem
  · rw [List.length_map, List.length_range, List.length_map, List.length_take, List.length_drop]; omega
  · intro i h1 _
    rw [List.length_map, List.length_range] at h1
    rw [List.getElem_map, List.getElem_map, List.getElem_range, getD_expose _ _ (by omega), List.getElem_take, List.getElem_drop]

/-- `m` lets the code read the first `n` bytes of `buf` — `buffer.as_slice()`, or a whole user packet — and promises nothing
about what lies behind them -/
structure Exposes (m : Mem) (buf : List (BitVec 8)) (n : Nat) : Prop where
  read : ∀ {off k}, off + k ≤ n → readN m off k = some ((buf.drop off).take k)

theorem exposes_all (bytes : List (BitVec 8)) (rest : Mem) : Exposes (expose bytes rest) bytes bytes.length :=
  ⟨readN_expose bytes rest⟩

theorem exposes_take (buf : List (BitVec 8)) (rest : Mem) {n : Nat} (hb : n ≤ buf.length) :
    Exposes (expose (buf.take n) rest) buf n :=
  ⟨fun h => by
    rw [readN_expose _ _ (by rw [List.length_take_of_le hb]; exact h), List.drop_take, List.take_take, Nat.min_eq_left (by omega)]⟩

/-- a lane of the signed compare `n > e` is selected only if `e < n` as numbers (both non-negative as `i32`) -/
theorem cmpgt32_sign {n : Nat} {e : BitVec 32} (hn : n < 2 ^ 31) (he : e.toNat < 2 ^ 31)
    (h : (X86.cmpgt32 (BitVec.ofNat 32 n) e).getLsbD 31 = true) : e.toNat < n := by
  rw [X86.cmpgt32, ← BitVec.setWidth_eq e, ← BitVec.ofNat_toNat, X86.slt_ofNat _ _ he hn] at h
  by_cases c : e.toNat < n
  · exact c
  · rw [decide_eq_false c] at h; exact absurd h (by decide)

theorem vld1q_u8_eq (mem : List (BitVec 8)) (off : Nat) : Neon.vld1q_u8 mem off = X86.loadu_si128 mem off := by
  rw [Neon.vld1q_u8, X86.loadu_si128, X86.ofBytes16, List.drop_drop]; rfl

namespace Exposes
variable {m : Mem} {buf : List (BitVec 8)} {n off : Nat} (he : Exposes m buf n)
include he

theorem loadu128 (h : off + 16 ≤ n) : loadu128 m off = some (X86.loadu_si128 buf off) := by
  rw [FP.loadu128, he.read h, Option.map_some, X86.loadu_si128, X86.ofBytes16, X86.ofBytes16, List.drop_take,
    le64_take _ 16 (by decide), le64_take _ 8 (by decide)]

theorem load128 {base : Nat} (hal : (base + off) % 16 = 0) (h : off + 16 ≤ n) :
    load128 base m off = some (X86.loadu_si128 buf off) := by
  rw [FP.load128, if_pos hal, he.loadu128 h]

theorem load64 (h : off + 8 ≤ n) : load64 m off = some (le64 (buf.drop off)) := by
  rw [FP.load64, he.read h, Option.map_some, le64_take _ _ (Nat.le_refl _)]

theorem load32 (h : off + 4 ≤ n) : load32 m off = some (le32 (buf.drop off)) := by
  rw [FP.load32, he.read h, Option.map_some, le32_take _ _ (Nat.le_refl _)]

/-- `data.get(..4)` followed by `u32::from_le_bytes` -/
theorem slice4 (h : off + 4 ≤ n) : slice m off 4 = some ((buf.drop off).take 4) := he.read h

/-- a slice that runs to the end of the exposed bytes, as `buffer.as_slice()` has it -/
theorem slice_end {k : Nat} (h : off + k = n) : slice m off k = some ((buf.take n).drop off) := by
  rw [slice, he.read (Nat.le_of_eq h), List.drop_take, ← h, Nat.add_sub_cancel_left]

theorem maskLane {mask : BitVec 32} (h : mask.getLsbD 31 = true → off + 4 ≤ n) :
    FP.maskLane m off mask = some (X86.maskLane buf off mask) := by
  unfold FP.maskLane X86.maskLane
  split
  · rw [he.load32 (h ‹_›)]
  · rfl

end Exposes

/-- `data_to_lanes` of the SSE / NEON / AVX2 back ends on a 32-byte user packet: both 16-byte
(resp. the 32-byte) unaligned loads stay inside the packet, whatever lies behind it and whatever
the packet's address -/
theorem sse_packet_loads (chunk : List (BitVec 8)) (rest : Mem) (h : chunk.length = 32) :
    sseDataToLanes (expose chunk rest) = some (X86.loadu_si128 chunk 16, X86.loadu_si128 chunk 0) := by
  have he := h ▸ exposes_all chunk rest
  rw [sseDataToLanes, he.loadu128 (off := 0) (by decide), he.loadu128 (off := 16) (by decide)]; rfl

theorem avx_packet_loads (chunk : List (BitVec 8)) (rest : Mem) (h : chunk.length = 32) :
    avxDataToLanes (expose chunk rest) = some (X86.loadu_si256 chunk 0) := by
  have he := h ▸ exposes_all chunk rest
  rw [avxDataToLanes, he.loadu128 (off := 0) (by decide), he.loadu128 (off := 16) (by decide)]; rfl

/-! The hasher's own buffer, every pending count 0..31, arbitrary memory behind the slice.  Every `remainder` reads a
head at fixed offsets (when `16 ≤ n`), whole 4-byte groups through `load_multiple_of_four` on a sub-slice that ends at `n`,
and a tail slice that ends at `n`: the `n % 4` stragglers, or the last four bytes. -/

variable {m : Mem} {buf : List (BitVec 8)} {n : Nat}

theorem sseLoadMultipleOfFour_expose (he : Exposes m buf n) {off len : Nat} (hn : off + len = n) :
    sseLoadMultipleOfFour m off len = some (Sse.loadMultipleOfFour buf off len) := by
  subst hn
  unfold sseLoadMultipleOfFour Sse.loadMultipleOfFour
  by_cases h8 : len ≥ 8
  · -- after the 8-byte word, `data = &bytes[8..]` still ends where `bytes` ends
    simp only [h8, ↓reduceIte, he.load64 (Nat.add_le_add_left h8 off), X86.loadl_epi64, Option.bind_eq_bind, Option.bind_some, Option.pure_def]
    by_cases h4 : len - 8 ≥ 4 <;>
      simp (disch := omega) only [h4, ↓reduceIte, he.slice4, le32_take, le32_drop_take, Option.bind_some]
  · simp only [h8, ↓reduceIte, Option.bind_eq_bind, Option.bind_some, Option.pure_def]
    by_cases h4 : len ≥ 4 <;>
      simp (disch := omega) only [h4, ↓reduceIte, he.slice4, le32_take, le32_drop_take, Option.bind_some]

theorem sse_remainder_exposed (he : Exposes m buf n) (h : n < 32) : sseRemainder m n = some (Sse.remainder buf n) := by
  unfold sseRemainder Sse.remainder
  simp only [bit16 h]
  by_cases h16 : 16 ≤ n
  · rw [if_pos h16, if_pos h16, he.loadu128 (off := 0) h16, sseLoadMultipleOfFour_expose he (Nat.add_sub_cancel' h16),
      he.slice_end (last4_end h16)]; rfl
  · rw [if_neg h16, if_neg h16, sseLoadMultipleOfFour_expose he (Nat.zero_add n), he.slice_end (stragglers_end n)]; rfl

/-- SSE4.1: all raw loads of `remainder` lie inside `buffer.as_slice()` -/
theorem sse_remainder_in_bounds (buf : List (BitVec 8)) (n : Nat) (hb : buf.length = 32) (h : n < 32) (rest : Mem) :
    sseRemainder (expose (buf.take n) rest) n = some (Sse.remainder buf n) :=
  sse_remainder_exposed (exposes_take buf rest (hb ▸ Nat.le_of_lt h)) h

/-- one lane of the masked load under the mask lane `n > e`: it is selected only if `e < n`, so a 4-byte
group that ends at or below byte `e` lies below the count `n` -/
theorem maskLane_cmpgt (he : Exposes m buf n) {off : Nat} {e : BitVec 32} (hn : n < 2 ^ 31) (he' : e.toNat < 2 ^ 31)
    (hoff : off + 3 ≤ e.toNat) :
    FP.maskLane m off (X86.cmpgt32 (BitVec.ofNat 32 n) e) = some (X86.maskLane buf off (X86.cmpgt32 (BitVec.ofNat 32 n) e)) :=
  he.maskLane fun h => Nat.lt_of_le_of_lt hoff (cmpgt32_sign hn he' h)

theorem maskload_cmpgt (he : Exposes m buf n) {off : Nat} {size : BitVec 128} (e3 e2 e1 e0 : BitVec 32)
    (hs : ∀ k < 4, X86.lane32 size k = BitVec.ofNat 32 n)
    (h0 : e0.toNat = off + 3) (h1 : e1.toNat = off + 4 + 3) (h2 : e2.toNat = off + 8 + 3) (h3 : e3.toNat = off + 12 + 3)
    (hn : n < 2 ^ 31) (hoff : off + 15 < 2 ^ 31) :
    maskload m off (X86.cmpgt_epi32 size (X86.set_epi32 e3 e2 e1 e0))
      = some (X86.maskload_epi32 buf off (X86.cmpgt_epi32 size (X86.set_epi32 e3 e2 e1 e0))) := by
  have lt {e : BitVec 32} {j : Nat} (hj : e.toNat = off + j + 3) (hj' : j ≤ 12) : e.toNat < 2 ^ 31 := by omega
  simp only [maskload, X86.maskload_epi32, X86.cmpgt_epi32, X86.set_epi32, hs, X86.lane32_mk32, Nat.reduceLT,
    maskLane_cmpgt he hn (lt (j := 0) h0 (by decide)) (Nat.le_of_eq h0.symm), maskLane_cmpgt he hn (lt h1 (by decide)) (Nat.le_of_eq h1.symm),
    maskLane_cmpgt he hn (lt h2 (by decide)) (Nat.le_of_eq h2.symm), maskLane_cmpgt he hn (lt h3 (by decide)) (Nat.le_of_eq h3.symm),
    Option.bind_eq_bind, Option.bind_some, Option.pure_def]

theorem size_lanes (n : Nat) :
    ∀ k < 4, X86.lane32 (X86.castsi256_si128 (X86.broadcastd_epi32 (X86.cvtsi64_si128 (BitVec.ofNat 64 n)))) k = BitVec.ofNat 32 n :=
  fun k hk => by rw [X86.castsi256_si128, X86.broadcastd_epi32, X86.lane32_set1 _ k hk, Avx.sizeLane n]

theorem avx_remainder_exposed (he : Exposes m buf n) (h : n < 32) {base : Nat} (hal : base % 16 = 0) :
    avxRemainder base m n = some (Avx.remainder buf n) := by
  have hn : n < 2 ^ 31 := Nat.lt_trans h (by decide)
  unfold avxRemainder Avx.remainder
  simp only [bit16 h]
  by_cases h16 : 16 ≤ n
  · rw [if_pos h16, if_pos h16, he.load128 (off := 0) hal h16,
      maskload_cmpgt he 31 27 23 19 (off := 16) (size_lanes n) rfl rfl rfl rfl hn (by decide), he.slice_end (last4_end h16)]; rfl
  · rw [if_neg h16, if_neg h16, maskload_cmpgt he 15 11 7 3 (off := 0) (size_lanes n) rfl rfl rfl rfl hn (by decide),
      he.slice_end (stragglers_end n)]; rfl

/-- AVX2: with a 16-byte aligned buffer, the aligned load and the masked loads of `remainder` touch
only bytes of `buffer.as_slice()` (the masked loads only whole 4-byte groups below the count) -/
theorem avx_remainder_in_bounds (buf : List (BitVec 8)) (n : Nat) (hb : buf.length = 32) (h : n < 32) (rest : Mem)
    (base : Nat) (hal : base % 16 = 0) :
    avxRemainder base (expose (buf.take n) rest) n = some (Avx.remainder buf n) :=
  avx_remainder_exposed (exposes_take buf rest (hb ▸ Nat.le_of_lt h)) h hal

/-- the alignment premise is necessary: a misplaced buffer makes the aligned load fault -/
theorem avx_remainder_misaligned_faults (m : Mem) (n : Nat) (h16 : (n / 16) % 2 = 1) (base : Nat) (hal : base % 16 ≠ 0) :
    avxRemainder base m n = none := by
  simp [avxRemainder, h16, FP.load128, hal, bind, Option.bind]

theorem neonLoadMultipleOfFour_expose (he : Exposes m buf n) {off len : Nat} (hn : off + len = n) (ho : off % 8 = 0) (hlen : len < 16) :
    neonLoadMultipleOfFour m off len n = some (NeonB.loadMultipleOfFour buf off len n) := by
  unfold neonLoadMultipleOfFour NeonB.loadMultipleOfFour
  -- bit 2 of `size` is bit 2 of `len`, since `off` is 0 or 16: with it set, four more bytes follow the optional 8-byte word
  have h4 (hs : (n / 4) % 2 = 1) : (8 ≤ len → off + 8 + 4 ≤ n) ∧ off + 4 ≤ n := by omega
  by_cases h8 : len ≥ 8
  · simp only [h8, ↓reduceIte, he.load64 (hn ▸ Nat.add_le_add_left h8 off), Option.bind_eq_bind, Option.bind_some, Option.pure_def]
    split
    · rw [he.load32 ((h4 ‹_›).1 h8)]; rfl
    · rfl
  · simp only [h8, ↓reduceIte, Option.bind_eq_bind, Option.bind_some, Option.pure_def]
    split
    · rw [he.load32 (h4 ‹_›).2]; rfl
    · rfl

theorem neon_remainder_exposed (he : Exposes m buf n) (h : n < 32) : neonRemainder m n = some (NeonB.remainder buf n) := by
  unfold neonRemainder NeonB.remainder
  simp only [bit16 h]
  by_cases h16 : 16 ≤ n
  · rw [if_pos h16, if_pos h16, he.loadu128 (off := 0) h16, vld1q_u8_eq,
      neonLoadMultipleOfFour_expose he (Nat.add_sub_cancel' h16) rfl (by omega), he.slice_end (last4_end h16)]; rfl
  · rw [if_neg h16, if_neg h16, neonLoadMultipleOfFour_expose he (Nat.zero_add n) rfl (Nat.lt_of_not_le h16),
      he.slice_end (stragglers_end n)]; rfl

/-- NEON: the unchecked `take::<8>` / `take::<4>` reads and `vld1q_u8` lie inside the slice -/
theorem neon_remainder_in_bounds (buf : List (BitVec 8)) (n : Nat) (hb : buf.length = 32) (h : n < 32) (rest : Mem) :
    neonRemainder (expose (buf.take n) rest) n = some (NeonB.remainder buf n) :=
  neon_remainder_exposed (exposes_take buf rest (hb ▸ Nat.le_of_lt h)) h

theorem wasmLoadMultipleOfFour_expose {bytes : List (BitVec 8)} (he : Exposes m bytes bytes.length) {off len : Nat}
    (hn : off + len = bytes.length) :
    wasmLoadMultipleOfFour m off len = some (WasmB.loadMultipleOfFour (bytes.drop off)) := by
  have hl : bytes.length - off = len := by rw [← hn, Nat.add_sub_cancel_left]
  unfold wasmLoadMultipleOfFour WasmB.loadMultipleOfFour
  by_cases h8 : len ≥ 8
  · simp only [List.length_drop, hl, h8, ↓reduceIte, he.load64 (hn ▸ Nat.add_le_add_left h8 off), Option.bind_eq_bind, Option.bind_some,
      Option.pure_def]
    by_cases h4 : len - 8 ≥ 4 <;> simp (disch := omega) only [h4, ↓reduceIte, he.slice4, le32_take, List.drop_drop, Option.bind_some]
  · simp only [List.length_drop, hl, h8, ↓reduceIte, Option.bind_eq_bind, Option.bind_some, Option.pure_def]
    by_cases h4 : len ≥ 4 <;> simp (disch := omega) only [h4, ↓reduceIte, he.slice4, le32_take, Option.bind_some]

theorem wasm_remainder_exposed {bytes : List (BitVec 8)} (he : Exposes m bytes bytes.length) (h : bytes.length < 32) :
    wasmRemainder m bytes.length = some (WasmB.remainder bytes) := by
  unfold wasmRemainder WasmB.remainder
  simp only [if_neg (Nat.not_lt.2 (Nat.le_of_lt h))]
  by_cases h16 : bytes.length ≥ 16
  · rw [if_pos h16, if_pos h16, he.load64 (off := 0) (Nat.le_trans (by decide) h16), he.load64 (off := 8) h16,
      wasmLoadMultipleOfFour_expose he (Nat.add_sub_cancel' h16), he.slice_end (last4_end h16), List.take_length]; rfl
  · rw [if_neg h16, if_neg h16, wasmLoadMultipleOfFour_expose he (Nat.zero_add _), he.slice_end (stragglers_end _), List.take_length]; rfl

/-- Wasm: every `le_u64` / slice / index of `remainder` stays inside `buffer.as_slice()` (so none of
them can panic), for every pending count -/
theorem wasm_remainder_in_bounds (bytes : List (BitVec 8)) (h : bytes.length < 32) (rest : Mem) :
    wasmRemainder (expose bytes rest) bytes.length = some (WasmB.remainder bytes) :=
  wasm_remainder_exposed (exposes_all bytes rest) h

/-- the aligned 32-byte key load of `AvxHash::force_new` needs (and `#[repr(align(32))] Key` gives)
a 32-byte aligned key -/
theorem avx_key_load (key : List (BitVec 8)) (rest : Mem) (hk : key.length = 32) (base : Nat) :
    (base % 32 = 0 → avxLoadKey base (expose key rest) = some (X86.loadu_si256 key 0)) ∧
    (base % 32 ≠ 0 → avxLoadKey base (expose key rest) = none) := by
  constructor
  · intro h; simp [avxLoadKey, h, avx_packet_loads key rest hk]
  · intro h; simp [avxLoadKey, h]

/-- non-vacuity: the model does exhibit faults — a 16-byte load over a 15-byte slice that abuts an
unmapped byte -/
theorem fault_witness : loadu128 (expose (List.replicate 15 0) [none]) 0 = none := by decide

end HH.C09
