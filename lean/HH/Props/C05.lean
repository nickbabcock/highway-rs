import HH.Proofs.HasherAbs
/-!
# C05 — streaming invariance: only the concatenated bytes matter

For every back end, every state that satisfies the packet invariant (so: fresh, default, restored
from arbitrary bytes, or reached by any history), every partition of the data into chunks
(including empty and multi-packet chunks) and every width.  The entry points `append`,
`Hasher::write`, `io::Write::write`, `write_all`, `io::copy` are the same state transformer
(in `step`, `HH/Machine.lean`), the one-shot helpers are `append` followed by `finalizeN` by definition.
-/
namespace HH.C05

theorem streaming (h : Hasher) (hi : h.Inv) (chunks : List (List (BitVec 8))) (w : Width) :
    (chunks.foldl Hasher.append h).finalize w = (h.append chunks.flatten).finalize w := by
  rw [(hi.is.foldl chunks).finalize, (hi.is.append _).finalize]

/-- two chunkings of the same data -/
theorem streaming2 (h : Hasher) (hi : h.Inv) (c1 c2 : List (List (BitVec 8))) (e : c1.flatten = c2.flatten) (w : Width) :
    (c1.foldl Hasher.append h).finalize w = (c2.foldl Hasher.append h).finalize w := by
  rw [streaming h hi c1 w, streaming h hi c2 w, e]

/-- for a hasher built from a key on any back end: the chunked result is the one-shot hash -/
theorem streaming_new (b : Backend) (k : V4) (h : Hasher) (hh : Hasher.new b k = some h)
    (chunks : List (List (BitVec 8))) (w : Width) :
    (chunks.foldl Hasher.append h).finalize w = (h.append chunks.flatten).finalize w :=
  streaming h (Hasher.Is.new hh).inv chunks w

/-- one cut at ANY position (0, inside a packet, exactly on a packet boundary, beyond the end) -/
theorem split_anywhere (h : Hasher) (hi : h.Inv) (d : List (BitVec 8)) (n : Nat) (w : Width) :
    ((h.append (d.take n)).append (d.drop n)).finalize w = (h.append d).finalize w := by
  have := streaming2 h hi [d.take n, d.drop n] [d] (by simp) w
  simpa using this

/-- empty chunks anywhere in a history are irrelevant -/
theorem empty_chunks_irrelevant (h : Hasher) (hi : h.Inv) (chunks : List (List (BitVec 8))) (w : Width) :
    (chunks.foldl Hasher.append h).finalize w = ((chunks.filter (fun c => !c.isEmpty)).foldl Hasher.append h).finalize w :=
  streaming2 h hi _ _ List.flatten_filter_not_isEmpty.symm w

/-- byte-at-a-time feeding equals one append -/
theorem bytewise (h : Hasher) (hi : h.Inv) (d : List (BitVec 8)) (w : Width) :
    ((d.map (fun x => [x])).foldl Hasher.append h).finalize w = (h.append d).finalize w := by
  have e : (d.map (fun x => [x])).flatten = d := List.flatMap_def.symm.trans (List.flatMap_singleton' d)
  have := streaming2 h hi (d.map (fun x => [x])) [d] (by simp [e]) w
  simpa using this

/-- an empty append never changes anything observable -/
theorem empty_append (h : Hasher) (hi : h.Inv) :
    (h.append []).abs = h.abs ∧ (h.append []).checkpoint = h.checkpoint ∧ ∀ w, (h.append []).finalize w = h.finalize w := by
  have s : (h.append []).Is h.abs := absAppend_nil h.abs hi.is.pending_lt ▸ hi.is.append []
  exact ⟨s.abs_eq, s.checkpoint.trans hi.is.checkpoint.symm, fun w => (s.finalize w).trans (hi.is.finalize w).symm⟩

/-- all entry points of the machine feed the same bytes to the same transformer -/
theorem entry_points_agree (env : Env) (w : World) (h : Nat) (d : List (BitVec 8)) :
    (step env w (.append h d)).1 = (step env w (.ioWrite h d)).1 := by
  simp only [step]; cases w.get h <;> rfl

/-- non-vacuity: a hasher built from a key meets the hypothesis `h.Inv` -/
example : (Hasher.portable (P.new ⟨1, 2, 3, 4⟩)).Inv := P.new_inv _

end HH.C05
