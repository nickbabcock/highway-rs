import HH.Props.C02
import HH.Props.C06
import HH.Props.C14
/-!
# C03 — the NEON back end equals portable for every key, input and width, and its checkpoints
are interchangeable with every other back end's

`NeonB.*` is the model of `src/aarch64.rs`, tied to the working-tree source by running that source
under Miri's aarch64 interpreter on every check.
-/
namespace HH.C03

theorem neon_hash64 (k : V4) (d : List (BitVec 8)) : NeonB.finalize64 (NeonB.append (NeonB.new k) d) = P.hash64 k d :=
  Digest.d64.inj (C02.backend_eq_portable .neon k _ rfl [d] .w64)
theorem neon_hash128 (k : V4) (d : List (BitVec 8)) : NeonB.finalize128 (NeonB.append (NeonB.new k) d) = P.hash128 k d :=
  Digest.d128.inj (C02.backend_eq_portable .neon k _ rfl [d] .w128)
theorem neon_hash256 (k : V4) (d : List (BitVec 8)) : NeonB.finalize256 (NeonB.append (NeonB.new k) d) = P.hash256 k d :=
  Digest.d256.inj (C02.backend_eq_portable .neon k _ rfl [d] .w256)

theorem neon_streamed (k : V4) (chunks : List (List (BitVec 8))) (w : Width) :
    (chunks.foldl Hasher.append (Hasher.neon (NeonB.new k))).finalize w
      = (chunks.foldl Hasher.append (Hasher.portable (P.new k))).finalize w :=
  C02.backend_eq_portable .neon k _ rfl chunks w

/-! Checkpoints are interchangeable at every cut position: NEON bytes equal the bytes any other back end produces for
the same stream, NEON restores any back end's checkpoint and any back end restores a NEON checkpoint. -/

theorem neon_checkpoint_bytes (b : Backend) (k : V4) (h : Hasher) (hh : Hasher.new b k = some h)
    (c1 c2 : List (List (BitVec 8))) (e : c1.flatten = c2.flatten) :
    (c1.foldl Hasher.append (Hasher.neon (NeonB.new k))).checkpoint = (c2.foldl Hasher.append h).checkpoint :=
  (C14.canonical .neon b k _ h rfl hh c1 c2 e).1

theorem neon_restores_any (h : Hasher) (hi : h.Inv) (suffix : List (List (BitVec 8))) (w : Width) :
    (suffix.foldl Hasher.append (Hasher.neon (NeonB.fromCheckpoint h.checkpoint))).finalize w
      = (suffix.foldl Hasher.append h).finalize w :=
  (C06.hop_transparent h hi .neon _ rfl suffix).1 w

theorem any_restores_neon (x : NeonB.State) (hi : x.buffer.Inv) (b : Backend) (h' : Hasher)
    (hr : Hasher.fromCheckpoint b (NeonB.checkpoint x) = some h') (suffix : List (List (BitVec 8))) (w : Width) :
    (suffix.foldl Hasher.append h').finalize w = (suffix.foldl Hasher.append (Hasher.neon x)).finalize w :=
  (C06.hop_transparent (Hasher.neon x) hi b h' hr suffix).1 w

theorem neon_eq_spec64 (k : V4) (d : List (BitVec 8)) : NeonB.finalize64 (NeonB.append (NeonB.new k) d) = Spec.hash64 k d := by
  rw [neon_hash64, C01.hash64_eq_spec]

end HH.C03
