import HH.Proofs.MachineLemmas
import HH.Proofs.HasherAbs
/-!
# Configuration irrelevance of whole histories (strengthens C02 / C10 / C12 at the machine level)

Two machines running in ANY two environments (target class, std, compile-time and detected CPU
features) execute the same history of API calls on `HighwayHasher` and `PortableHash` handles:
every output is identical, except that `Debug` may report a different tag.  So the auto-selecting
hasher is observationally the portable hasher in every configuration, for whole histories
(constructors, appends through any entry point, clones, checkpoints, restores from arbitrary bytes
or from other handles, finishes, finalisations).
-/
namespace HH.Irrelevance

def Handle.rel (x y : Handle) : Prop := x.auto = y.auto ∧ ∃ a, x.h.Is a ∧ y.h.Is a

def Wrel (w1 w2 : World) : Prop :=
  ∀ i, match w1.get i, w2.get i with
    | some x, some y => Handle.rel x y
    | none, none => True
    | _, _ => False

/-- outputs agree, tags up to the back end chosen -/
def Orel : Out → Out → Prop
  | .tag a _, .tag b _ => a = b
  | o1, o2 => o1 = o2

def selOk : Sel → Prop
  | .auto => True
  | .only .portable => True
  | _ => False

/-- operations on always-available hasher types, with well-formed (164-byte) checkpoints -/
def opOk : Op → Prop
  | .new _ s _ _ => selOk s
  | .default _ s => selOk s
  | .restore _ s _ c => selOk s ∧ c.length = 164
  | .restoreH _ s _ _ => selOk s
  | .hash s _ _ _ _ => selOk s
  | _ => True

theorem Wrel.nil : Wrel [] [] := fun _ => trivial

theorem Wrel.put {w1 w2 : World} (hw : Wrel w1 w2) (i : Nat) {x y : Handle} (hxy : Handle.rel x y) :
    Wrel (w1.put i x) (w2.put i y) := by
  intro j
  rw [World.get_put, World.get_put]
  by_cases hj : j = i
  · simp [hj, hxy]
  · simp only [hj, ↓reduceIte]; exact hw j

theorem Wrel.del {w1 w2 : World} (hw : Wrel w1 w2) (i : Nat) : Wrel (w1.del i) (w2.del i) := by
  intro j
  rw [World.get_del, World.get_del]
  by_cases hj : j = i
  · simp [hj]
  · simp only [hj, ↓reduceIte]; exact hw j

/-- `mk` returns a hasher for every back end (every back end has a model), and whichever back end it is the hasher
represents `a` -/
def Lands (mk : Backend → Option Hasher) (a : St × List (BitVec 8)) : Prop := ∀ b, ∃ h, mk b = some h ∧ h.Is a

theorem lands_new (k : V4) : Lands (Hasher.new · k) (Spec.reset k, []) :=
  fun b => (Hasher.new_total b k).imp fun _ e => ⟨e, .new e⟩
theorem lands_default : Lands Hasher.default (Spec.reset V4.zero, []) :=
  fun b => Hasher.default_eq_new b ▸ lands_new V4.zero b
theorem lands_fromCheckpoint {c : List (BitVec 8)} (hc : c.length = 164) : Lands (Hasher.fromCheckpoint · c) (P.decodeAbs c) :=
  fun b => (Hasher.fromCheckpoint_total b c).imp fun _ e => ⟨e, .fromCheckpoint hc e⟩
theorem lands_restore {h : Hasher} {a : St × List (BitVec 8)} (s : h.Is a) : Lands (Hasher.fromCheckpoint · h.checkpoint) a :=
  fun b => (Hasher.fromCheckpoint_total b _).imp fun _ e => ⟨e, s.restore e⟩

section
variable {sel : Sel} {force restore : Bool} {mk mk1 mk2 : Backend → Option Hasher} {a : St × List (BitVec 8)}

/-- a request for an always-available hasher type resolves to some back end in every environment -/
theorem resolve_ok (env : Env) (hs : selOk sel) : ∃ b, resolve env sel force restore = some b := by
  cases sel with
  | auto => exact ⟨_, rfl⟩
  | only b =>
    cases b <;> simp only [selOk] at hs
    exact ⟨_, rfl⟩

theorem construct_ok (env : Env) (hs : selOk sel) (l : Lands mk a) :
    ∃ h, construct env sel force restore mk = some (mkHandle sel h) ∧ h.Is a := by
  obtain ⟨b, hb⟩ := resolve_ok (force := force) (restore := restore) env hs
  obtain ⟨h, hh, s⟩ := l b
  exact ⟨h, by simp only [construct, hb, hh, Option.map_some], s⟩

theorem construct_rel (e1 e2 : Env) (hs : selOk sel) (l1 : Lands mk1 a) (l2 : Lands mk2 a) :
    ∃ x y, construct e1 sel force restore mk1 = some x ∧ construct e2 sel force restore mk2 = some y ∧ Handle.rel x y := by
  obtain ⟨_, hx, sx⟩ := construct_ok e1 hs l1
  obtain ⟨_, hy, sy⟩ := construct_ok e2 hs l2
  exact ⟨_, _, hx, hy, rfl, a, sx, sy⟩

end

theorem Wrel.lookup {w1 w2 : World} (hw : Wrel w1 w2) (i : Nat) {k1 k2 : Handle → World × Out}
    (h : ∀ x y, Handle.rel x y → Wrel (k1 x).1 (k2 y).1 ∧ Orel (k1 x).2 (k2 y).2) :
    Wrel (w1.lookup i k1).1 (w2.lookup i k2).1 ∧ Orel (w1.lookup i k1).2 (w2.lookup i k2).2 := by
  have r := hw i
  unfold World.lookup
  cases h1 : w1.get i <;> cases h2 : w2.get i <;> simp only [h1, h2] at r ⊢
  · exact ⟨hw, rfl⟩
  · exact h _ _ r

theorem Wrel.install {w1 w2 : World} (hw : Wrel w1 w2) (i : Nat) {c1 c2 : Option Handle}
    (h : ∃ x y, c1 = some x ∧ c2 = some y ∧ Handle.rel x y) :
    Wrel (w1.install i c1).1 (w2.install i c2).1 ∧ Orel (w1.install i c1).2 (w2.install i c2).2 := by
  obtain ⟨x, y, rfl, rfl, r⟩ := h
  exact ⟨hw.put i r, rfl⟩

/-- one step: related worlds stay related and the outputs agree -/
theorem step_sim (e1 e2 : Env) (w1 w2 : World) (op : Op) (hw : Wrel w1 w2) (hop : opOk op) :
    Wrel (step e1 w1 op).1 (step e2 w2 op).1 ∧ Orel (step e1 w1 op).2 (step e2 w2 op).2 := by
  cases op with
  | reset => exact ⟨.nil, rfl⟩
  | new h sel force key => exact hw.install h (construct_rel e1 e2 hop (lands_new key) (lands_new key))
  | default h sel => exact hw.install h (construct_rel e1 e2 hop lands_default lands_default)
  | restore h sel force c =>
    exact hw.install h (construct_rel e1 e2 hop.1 (lands_fromCheckpoint hop.2) (lands_fromCheckpoint hop.2))
  | restoreH h sel force src =>
    exact hw.lookup src fun _ _ ⟨_, _, sa, sb⟩ => hw.install h (construct_rel e1 e2 hop (lands_restore sa) (lands_restore sb))
  | append h d | ioWrite h d =>
    exact hw.lookup h fun _ _ ⟨ha, _, sa, sb⟩ => ⟨hw.put h ⟨ha, _, sa.append d, sb.append d⟩, rfl⟩
  | writes h ws =>
    exact hw.lookup h fun _ _ ⟨ha, _, sa, sb⟩ => ⟨hw.put h ⟨ha, _, sa.foldl ws, sb.foldl ws⟩, rfl⟩
  | clone src dst => exact hw.lookup src fun x y r => ⟨hw.put dst r, rfl⟩
  | fin h wd =>
    exact hw.lookup h fun _ _ ⟨_, _, sa, sb⟩ => ⟨hw.del h, by simp only [Orel, sa.finalize, sb.finalize]⟩
  | ckpt h => exact hw.lookup h fun _ _ ⟨_, _, sa, sb⟩ => ⟨hw, by simp only [Orel, sa.checkpoint, sb.checkpoint]⟩
  | finish h => exact hw.lookup h fun _ _ ⟨_, _, sa, sb⟩ => ⟨hw, by simp only [Orel, sa.finalize64, sb.finalize64]⟩
  | flush h => exact hw.lookup h fun _ _ _ => ⟨hw, rfl⟩
  | drop h => exact hw.lookup h fun _ _ _ => ⟨hw.del h, rfl⟩
  | debug h => exact hw.lookup h fun _ _ r => ⟨hw, r.1⟩
  | hash sel force wd key d =>
    obtain ⟨x, y, hx, hy, -, a, sa, sb⟩ := construct_rel (force := force) (restore := false) e1 e2 hop (lands_new key) (lands_new key)
    simp only [step, hx, hy, Orel, (sa.append d).finalize, (sb.append d).finalize]
    exact ⟨hw, trivial⟩
  | hashOne key ws =>
    obtain ⟨x, y, hx, hy, -, a, sa, sb⟩ :=
      construct_rel (sel := .auto) (force := false) (restore := false) e1 e2 trivial (lands_new key) (lands_new key)
    simp only [step, hx, hy, Orel, (sa.foldl ws).finalize64, (sb.foldl ws).finalize64]
    exact ⟨hw, trivial⟩

/-- outputs of two runs, pointwise related -/
def Orels : List Out → List Out → Prop
  | [], [] => True
  | a :: as, b :: bs => Orel a b ∧ Orels as bs
  | _, _ => False

/-- headline: ANY two configurations produce the same outputs on every history of calls on
`HighwayHasher` / `PortableHash` handles (tags excepted) -/
theorem config_irrelevant (e1 e2 : Env) (ops : List Op) (hops : ∀ op ∈ ops, opOk op) :
    ∀ w1 w2, Wrel w1 w2 → Orels (run e1 w1 ops).2 (run e2 w2 ops).2 := by
  induction ops with
  | nil => intro w1 w2 _; trivial
  | cons op ops ih =>
    intro w1 w2 hw
    have s := step_sim e1 e2 w1 w2 op hw (hops op List.mem_cons_self)
    simp only [run, Orels]
    exact ⟨s.2, ih (fun o ho => hops o (List.mem_cons_of_mem _ ho)) _ _ s.1⟩

end HH.Irrelevance
