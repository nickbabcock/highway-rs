import HH.Proofs.HasherAbs
import HH.Props.EndToEnd
/-!
# C06 — checkpoint/restore is transparent at every cut point and across back ends

A *hop* checkpoints the current hasher and restores the bytes on some back end.  After any number
of hops, interleaved with arbitrary appends, every later result (any suffix chunking, any width,
further checkpoints) equals that of the uninterrupted hasher.
-/
namespace HH.C06

theorem hop_transparent (h : Hasher) (hi : h.Inv) (b : Backend) (h' : Hasher)
    (hr : Hasher.fromCheckpoint b h.checkpoint = some h') (suffix : List (List (BitVec 8))) :
    (∀ w, (suffix.foldl Hasher.append h').finalize w = (suffix.foldl Hasher.append h).finalize w) ∧
    (suffix.foldl Hasher.append h').checkpoint = (suffix.foldl Hasher.append h).checkpoint :=
  have o := (hi.is.restore hr).obs_eq hi.is suffix
  ⟨o.1, o.2.1⟩

/-- a segment of a journey: append some chunks, then checkpoint and restore on back end `b` -/
structure Leg where
  chunks : List (List (BitVec 8))
  b : Backend

/-- run a journey; `none` if some back end is unavailable -/
def journey : Hasher → List Leg → Option Hasher
  | h, [] => some h
  | h, l :: ls =>
    match Hasher.fromCheckpoint l.b (l.chunks.foldl Hasher.append h).checkpoint with
    | some h' => journey h' ls
    | none => none

/-- the same data without any hop -/
def straight : Hasher → List Leg → Hasher
  | h, [] => h
  | h, l :: ls => straight (l.chunks.foldl Hasher.append h) ls

/-- all bytes appended along a journey -/
def legsData (legs : List Leg) : List (BitVec 8) := (legs.map (fun l => l.chunks.flatten)).flatten

/-- a journey ends in the abstract state of one append of all leg data: hops are invisible -/
theorem journey_is {h h' : Hasher} {a : St × List (BitVec 8)} (s : h.Is a) (legs : List Leg)
    (hj : journey h legs = some h') : h'.Is (absAppend a (legsData legs)) := by
  induction legs generalizing h a with
  | nil => cases hj; exact s.foldl []
  | cons l ls ih =>
    simp only [journey] at hj
    split at hj
    · rename_i h1 hr
      exact absAppend_assoc a l.chunks.flatten (legsData ls) ▸ ih ((s.foldl l.chunks).restore hr) hj
    · cases hj

theorem straight_is {h : Hasher} {a : St × List (BitVec 8)} (s : h.Is a) (legs : List Leg) :
    (straight h legs).Is (absAppend a (legsData legs)) := by
  induction legs generalizing h a with
  | nil => exact s.foldl []
  | cons l ls ih => exact absAppend_assoc a l.chunks.flatten (legsData ls) ▸ ih (s.foldl l.chunks)

/-- any number of hops, any back ends, any cut points: the abstract state is that of the
uninterrupted hasher -/
theorem journey_abs : ∀ (legs : List Leg) (h g : Hasher), h.Inv → g.Inv → h.abs = g.abs →
    ∀ h', journey h legs = some h' → h'.abs = (straight g legs).abs ∧ h'.Inv ∧ (straight g legs).Inv :=
  fun legs _ _ hi gi e _ hj =>
    have j := journey_is hi.is legs hj
    have t := straight_is (Hasher.Is.mk gi e.symm) legs
    ⟨j.abs_eq.trans t.abs_eq.symm, j.inv, t.inv⟩

/-- headline: after any journey, every later result equals the uninterrupted one -/
theorem journey_transparent (legs : List Leg) (h : Hasher) (hi : h.Inv) (h' : Hasher)
    (hj : journey h legs = some h') (suffix : List (List (BitVec 8))) (w : Width) :
    (suffix.foldl Hasher.append h').finalize w = (suffix.foldl Hasher.append (straight h legs)).finalize w :=
  ((journey_is hi.is legs hj).obs_eq (straight_is hi.is legs) suffix).1 w

/-- after any journey the later checkpoints (and `finish`) are the uninterrupted ones, byte for byte -/
theorem journey_checkpoint (legs : List Leg) (h : Hasher) (hi : h.Inv) (h' : Hasher)
    (hj : journey h legs = some h') (suffix : List (List (BitVec 8))) :
    (suffix.foldl Hasher.append h').checkpoint = (suffix.foldl Hasher.append (straight h legs)).checkpoint ∧
    (suffix.foldl Hasher.append h').finalize64 = (suffix.foldl Hasher.append (straight h legs)).finalize64 :=
  ((journey_is hi.is legs hj).obs_eq (straight_is hi.is legs) suffix).2

theorem straight_abs : ∀ (legs : List Leg) (h : Hasher), h.Inv →
    (straight h legs).abs = absAppend h.abs (legsData legs) ∧ (straight h legs).Inv :=
  fun legs _ hi => have t := straight_is hi.is legs; ⟨t.abs_eq, t.inv⟩

/-- end to end: a hasher built from a key on any back end, carried through any journey (any cut points, any back end per
hop) and then fed any suffix, outputs the *specification's* digest of all the bytes, at every width -/
theorem journey_is_spec (b : Backend) (k : V4) (h : Hasher) (hh : Hasher.new b k = some h) (legs : List Leg)
    (h' : Hasher) (hj : journey h legs = some h') (suffix : List (List (BitVec 8))) (w : Width) :
    (suffix.foldl Hasher.append h').finalize w = EndToEnd.specDigest w k (legsData legs ++ suffix.flatten) := by
  rw [((journey_is (.new hh) legs hj).foldl suffix).finalize, absAppend_assoc]
  exact EndToEnd.digestAbs_spec w k _

/-- non-vacuity: a two-hop journey portable → sse → avx exists -/
example : ∃ h', journey (Hasher.portable (P.new ⟨1, 2, 3, 4⟩)) [⟨[[1, 2, 3]], .sse⟩, ⟨[[4], []], .avx⟩] = some h' :=
  ⟨_, rfl⟩

end HH.C06
