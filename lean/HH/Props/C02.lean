import HH.Proofs.HasherAbs
import HH.Props.C01
import HH.Props.Irrelevance
/-!
# C02 — SSE4.1, AVX2 and the auto-selecting hasher equal portable on x86_64

For every key, byte string, chunking and width.  The quantifier over build configurations is
handled in two parts: `auto_eq_portable` quantifies over every `Cfg`/`Cpu` of the selection
ladder; that each real build configuration *is* described by these models is what the
configuration matrix of the correspondence check establishes (DESIGN.md C02).
-/
namespace HH.C02

/-- any back end constructed from a key, fed any chunk sequence, gives the portable (hence the
HighwayHash) result at every width -/
theorem backend_eq_portable (b : Backend) (k : V4) (h : Hasher) (hh : Hasher.new b k = some h)
    (chunks : List (List (BitVec 8))) (w : Width) :
    (chunks.foldl Hasher.append h).finalize w
      = (chunks.foldl Hasher.append (Hasher.portable (P.new k))).finalize w :=
  (Hasher.Is.obs_eq (.new hh) (.portable_new k) chunks).1 w

theorem sse_hash64 (k : V4) (d : List (BitVec 8)) : Sse.finalize64 (Sse.append (Sse.new k) d) = P.hash64 k d :=
  Digest.d64.inj (backend_eq_portable .sse k _ rfl [d] .w64)

theorem sse_hash128 (k : V4) (d : List (BitVec 8)) : Sse.finalize128 (Sse.append (Sse.new k) d) = P.hash128 k d :=
  Digest.d128.inj (backend_eq_portable .sse k _ rfl [d] .w128)

theorem sse_hash256 (k : V4) (d : List (BitVec 8)) : Sse.finalize256 (Sse.append (Sse.new k) d) = P.hash256 k d :=
  Digest.d256.inj (backend_eq_portable .sse k _ rfl [d] .w256)

theorem avx_hash64 (k : V4) (d : List (BitVec 8)) : Avx.finalize64 (Avx.append (Avx.new k) d) = P.hash64 k d :=
  Digest.d64.inj (backend_eq_portable .avx k _ rfl [d] .w64)

theorem avx_hash128 (k : V4) (d : List (BitVec 8)) : Avx.finalize128 (Avx.append (Avx.new k) d) = P.hash128 k d :=
  Digest.d128.inj (backend_eq_portable .avx k _ rfl [d] .w128)

theorem avx_hash256 (k : V4) (d : List (BitVec 8)) : Avx.finalize256 (Avx.append (Avx.new k) d) = P.hash256 k d :=
  Digest.d256.inj (backend_eq_portable .avx k _ rfl [d] .w256)

/-- the dispatcher: whatever back end the ladder selects in whatever configuration -/
theorem auto_eq_portable (c : Cfg) (cpu : Cpu) (k : V4) (h : Hasher)
    (hh : Hasher.new (selectNew c cpu) k = some h) (chunks : List (List (BitVec 8))) (w : Width) :
    (chunks.foldl Hasher.append h).finalize w
      = (chunks.foldl Hasher.append (Hasher.portable (P.new k))).finalize w :=
  backend_eq_portable _ k h hh chunks w

/-- and therefore SSE / AVX compute the HighwayHash specification -/
theorem sse_eq_spec64 (k : V4) (d : List (BitVec 8)) : Sse.finalize64 (Sse.append (Sse.new k) d) = Spec.hash64 k d := by
  rw [sse_hash64, C01.hash64_eq_spec]
theorem avx_eq_spec256 (k : V4) (d : List (BitVec 8)) : Avx.finalize256 (Avx.append (Avx.new k) d) = Spec.hash256 k d := by
  rw [avx_hash256, C01.hash256_eq_spec]

/-- history level, every configuration at once: any two environments (target class, std, compile-time
and detected CPU features) produce identical outputs on every history of API calls over
`HighwayHasher` / `PortableHash` handles — constructors, appends through any entry point, clones,
checkpoints, restores from arbitrary bytes, finishes, finalisations — `Debug` tags excepted -/
theorem config_irrelevant (e1 e2 : Env) (ops : List Op) (hops : ∀ op ∈ ops, Irrelevance.opOk op) :
    Irrelevance.Orels (run e1 [] ops).2 (run e2 [] ops).2 :=
  Irrelevance.config_irrelevant e1 e2 ops hops [] [] .nil

/-- non-vacuity: the hypotheses are met by the real constructors -/
example : Hasher.new .sse ⟨1, 2, 3, 4⟩ = some (Hasher.sse (Sse.new ⟨1, 2, 3, 4⟩)) := rfl
example : Hasher.new (selectNew ⟨.x86_64, true, false, false⟩ ⟨true, true⟩) ⟨1, 2, 3, 4⟩
    = some (Hasher.avx (Avx.new ⟨1, 2, 3, 4⟩)) := rfl

end HH.C02
