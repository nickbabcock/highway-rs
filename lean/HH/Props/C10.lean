import HH.Proofs.MachineLemmas
/-!
# C10 — back-end selection is valid and consistent in every build configuration

The configuration space of the selection ladders is finite: 4 target classes × std × two
compile-time target features × two detected CPU features = 128 rows; every statement below is
proved for all of them (case analysis, checked by the kernel).
-/
namespace HH.C10

/-- the ladder of `HighwayHasher::new` only ever picks a back end the configuration permits -/
theorem select_permitted (c : Cfg) (cpu : Cpu) : Permitted c cpu (selectNew c cpu) := by
  obtain ⟨arch, std, s, a⟩ := c
  obtain ⟨cs, ca⟩ := cpu
  cases arch <;> cases std <;> cases s <;> cases a <;> cases cs <;> cases ca <;> decide

/-- the textually separate ladder of `from_checkpoint` makes the same choice -/
theorem restore_eq_new (c : Cfg) (cpu : Cpu) : selectRestore c cpu = selectNew c cpu := rfl

/-- when no SIMD back end is permitted, portable is selected -/
theorem portable_when_no_simd (c : Cfg) (cpu : Cpu) (h : NoSimdPermitted c cpu) : selectNew c cpu = .portable := by
  have p := select_permitted c cpu
  cases e : selectNew c cpu <;> rw [e] at p
  · exact absurd p h.2.1
  · exact absurd p h.1
  · exact absurd p h.2.2.1
  · exact absurd p h.2.2.2

/-- a SIMD back end is selected only when enabled at compile time or (with std) detected -/
theorem simd_only_if_enabled (c : Cfg) (cpu : Cpu) :
    (selectNew c cpu = .avx → c.tfAvx2 = true ∨ (c.std = true ∧ cpu.avx2 = true)) ∧
    (selectNew c cpu = .sse → c.tfSse41 = true ∨ (c.std = true ∧ cpu.sse41 = true)) := by
  have := select_permitted c cpu
  constructor <;> intro h <;> rw [h] at this <;> exact this.2

/-- the tag names a member of the union that exists for the target (so `unreachable_unchecked` in
the per-tag dispatch is never reached) -/
def tagValid (a : Arch) (b : Backend) : Prop :=
  match a with
  | .x86_64 => b = .portable ∨ b = .avx ∨ b = .sse
  | .aarch64 => b = .neon
  | .wasmSimd => b = .wasm
  | .other => b = .portable

theorem select_tag_valid (c : Cfg) (cpu : Cpu) : tagValid c.arch (selectNew c cpu) := by
  have p := select_permitted c cpu
  generalize selectNew c cpu = b at p
  cases b with
  | portable => rcases p with p | p <;> rw [p] <;> simp [tagValid]
  | sse => rw [p.1]; simp [tagValid]
  | avx => rw [p.1]; simp [tagValid]
  | neon => rw [show c.arch = _ from p]; rfl
  | wasm => rw [show c.arch = _ from p]; rfl

/-- the explicit SIMD constructors return a hasher only when the feature is detected (with std) -/
theorem ctor_some_iff (c : Cfg) (cpu : Cpu) :
    (sseCtorSome c cpu = true ↔ c.std = true ∧ cpu.sse41 = true) ∧
    (avxCtorSome c cpu = true ↔ c.std = true ∧ cpu.avx2 = true) := by
  simp [sseCtorSome, avxCtorSome]

/-- every auto handle of the world carries the back end the ladder selects -/
def AutoOK (env : Env) (w : World) : Prop :=
  ∀ i x, w.get i = some x → x.auto = true → x.h.backend = selectNew env.cfg env.cpu

namespace AutoOK
variable {env : Env} {w : World}

theorem nil : AutoOK env [] := fun _ _ hx => nomatch hx

theorem put (hw : AutoOK env w) (i : Nat) {x : Handle} (hx : x.auto = true → x.h.backend = selectNew env.cfg env.cpu) :
    AutoOK env (w.put i x) := fun j y hy ha => by
  rw [World.get_put] at hy
  split at hy
  · cases hy; exact hx ha
  · exact hw j y hy ha

theorem del (hw : AutoOK env w) (i : Nat) : AutoOK env (w.del i) := fun j y hy ha => by
  rw [World.get_del] at hy
  split at hy
  · cases hy
  · exact hw j y hy ha

theorem lookup (hw : AutoOK env w) (i : Nat) {k : Handle → World × Out} (h : ∀ x, w.get i = some x → AutoOK env (k x).1) :
    AutoOK env (w.lookup i k).1 := by
  unfold World.lookup
  split
  · exact hw
  · exact h _ ‹_›

/-- an auto-selected result carries the back end of the ladder, which is the same for `new` and for restore -/
theorem install (hw : AutoOK env w) (i : Nat) {sel : Sel} {force restore : Bool} {mk : Backend → Option Hasher}
    (hmk : ∀ b h, mk b = some h → h.backend = b) : AutoOK env (w.install i (construct env sel force restore mk)).1 := by
  unfold World.install
  split
  · rename_i x e
    obtain ⟨b, hh, hb, hm, rfl⟩ := construct_eq_some e
    refine hw.put i fun ha => ?_
    cases sel with
    | only _ => cases ha
    | auto => cases hb; exact (hmk _ _ hm).trans (by cases restore <;> rfl)
  · exact hw.del i

end AutoOK

/-- consistency: whichever way a `HighwayHasher` is obtained (new, default, restore, clone) and
whatever is done to it, it carries the selected back end — an invariant of every history -/
theorem step_autoOK (env : Env) (w : World) (op : Op) (hw : AutoOK env w) : AutoOK env (step env w op).1 := by
  cases op
  case reset => exact .nil
  case new h sel force key => exact hw.install h fun _ _ => Hasher.backend_new
  case default h sel => exact hw.install h fun b _ e => Hasher.backend_new (Hasher.default_eq_new b ▸ e)
  case restore h sel force c => exact hw.install h fun _ _ => Hasher.backend_fromCheckpoint
  case restoreH h sel force src =>
    exact hw.lookup src fun _ _ => hw.install h fun _ _ => Hasher.backend_fromCheckpoint
  case append h d | ioWrite h d => exact hw.lookup h fun _ hx => hw.put h fun ha => (Hasher.backend_append ..).trans (hw _ _ hx ha)
  case writes h ws => exact hw.lookup h fun _ hx => hw.put h fun ha => (Hasher.backend_foldl ..).trans (hw _ _ hx ha)
  case clone src dst => exact hw.lookup src fun _ hx => hw.put dst (hw _ _ hx)
  case fin h wd | drop h => exact hw.lookup h fun _ _ => hw.del h
  case hash | hashOne => simp only [step]; split <;> exact hw
  all_goals exact hw.lookup _ fun _ _ => hw

theorem run_autoOK (env : Env) (ops : List Op) : ∀ w, AutoOK env w → AutoOK env (run env w ops).1 := by
  induction ops with
  | nil => intro w hw; exact hw
  | cons op ops ih => intro w hw; simp only [run]; exact ih _ (step_autoOK env w op hw)

/-- from the empty world: every `HighwayHasher` ever observed has the permitted, selected back end -/
theorem reachable_auto_permitted (env : Env) (ops : List Op) (i : Nat) (x : Handle)
    (hx : (run env [] ops).1.get i = some x) (ha : x.auto = true) :
    x.h.backend = selectNew env.cfg env.cpu ∧ Permitted env.cfg env.cpu x.h.backend := by
  have h := run_autoOK env ops [] .nil i x hx ha
  exact ⟨h, h ▸ select_permitted _ _⟩

end HH.C10
