import HH.Proofs.HasherAbs
/-!
# C14 — checkpoint bytes are a canonical encoding of the logical state
-/
namespace HH.C14

/-- the checkpoint is a function of the abstract state only -/
theorem ckpt_of_abs (h1 h2 : Hasher) (i1 : h1.Inv) (i2 : h2.Inv) (e : h1.abs = h2.abs) :
    h1.checkpoint = h2.checkpoint :=
  i1.is.checkpoint.trans (Hasher.Is.mk i2 e.symm).checkpoint.symm

/-- two hashers (any back ends) built from the same key that consumed the same stream under any two
chunkings produce identical checkpoints: a function of (key, bytes consumed) only -/
theorem canonical (b1 b2 : Backend) (k : V4) (h1 h2 : Hasher) (e1 : Hasher.new b1 k = some h1)
    (e2 : Hasher.new b2 k = some h2) (c1 c2 : List (List (BitVec 8))) (e : c1.flatten = c2.flatten) :
    (c1.foldl Hasher.append h1).checkpoint = (c2.foldl Hasher.append h2).checkpoint ∧
    (c1.foldl Hasher.append h1).checkpoint = P.encodeAbs (absAppend (Spec.reset k, []) c1.flatten) :=
  have s1 := (Hasher.Is.new e1).foldl c1
  have s2 := (Hasher.Is.new e2).foldl c2
  ⟨s1.checkpoint.trans (e ▸ s2.checkpoint.symm), s1.checkpoint⟩

/-- restoring a produced checkpoint and checkpointing again returns the same 164 bytes -/
theorem idempotent (h : Hasher) (hi : h.Inv) (b : Backend) (h' : Hasher)
    (hr : Hasher.fromCheckpoint b h.checkpoint = some h') : h'.checkpoint = h.checkpoint :=
  (hi.is.restore hr).checkpoint.trans hi.is.checkpoint.symm

/-- the checkpoint contains no input bytes that have already been absorbed: the buffer field is the
pending bytes followed by zeros -/
theorem buffer_field (h : Hasher) (hi : h.Inv) :
    (h.checkpoint.drop 128).take 32 = h.abs.2 ++ zeros (32 - h.abs.2.length) :=
  hi.is.checkpoint ▸ (P.encodeAbs_fields h.abs (Nat.le_of_lt hi.is.pending_lt)).2.1

/-- the encoding is faithful: equal checkpoint bytes force equal logical states (the converse of
`ckpt_of_abs`), for hashers on any two back ends -/
theorem injective (h1 h2 : Hasher) (i1 : h1.Inv) (i2 : h2.Inv) (e : h1.checkpoint = h2.checkpoint) :
    h1.abs = h2.abs := by
  rw [i1.is.checkpoint, i2.is.checkpoint] at e
  rw [← P.decode_encode _ i1.is.pending_lt, ← P.decode_encode _ i2.is.pending_lt, e]

/-- hence the 164 bytes determine every later observation: two hashers (any back ends, any histories)
with equal checkpoints agree on every digest and every later checkpoint after any further chunk list -/
theorem equal_ckpt_equal_future (h1 h2 : Hasher) (i1 : h1.Inv) (i2 : h2.Inv) (e : h1.checkpoint = h2.checkpoint)
    (c1 c2 : List (List (BitVec 8))) (ec : c1.flatten = c2.flatten) (w : Width) :
    (c1.foldl Hasher.append h1).finalize w = (c2.foldl Hasher.append h2).finalize w ∧
    (c1.foldl Hasher.append h1).checkpoint = (c2.foldl Hasher.append h2).checkpoint :=
  have s1 := i1.is.foldl c1
  have s2 := (Hasher.Is.mk i2 (injective h1 h2 i1 i2 e).symm).foldl c2
  ⟨(s1.finalize w).trans (ec ▸ (s2.finalize w).symm), s1.checkpoint.trans (ec ▸ s2.checkpoint.symm)⟩

/-- the trailer (bytes 160..164) is the little-endian pending count, always below 32 -/
theorem count_field (h : Hasher) (hi : h.Inv) :
    h.checkpoint.drop 160 = toLE32 (BitVec.ofNat 32 h.abs.2.length) ∧ h.abs.2.length < 32 :=
  ⟨hi.is.checkpoint ▸ (P.encodeAbs_fields h.abs (Nat.le_of_lt hi.is.pending_lt)).2.2, hi.is.pending_lt⟩

/-- non-vacuity: a concrete pair of portable hashers with different histories meets the premises -/
example :
    let d : List (BitVec 8) := (List.range 40).map (BitVec.ofNat 8)
    let a := P.append (P.append (P.new ⟨1, 2, 3, 4⟩) (d.take 31)) (d.drop 31)
    let b := P.append (P.new ⟨1, 2, 3, 4⟩) d
    (Hasher.portable a).checkpoint = (Hasher.portable b).checkpoint ∧ a.buffer.buf ≠ b.buffer.buf := by
  decide +kernel

/-- the pinned tree wrote the whole buffer: stale bytes of a longer earlier fill leak -/
def legacyCheckpointBuf (x : P.State) : List (BitVec 8) := x.buffer.buf

theorem legacy_leak :
    let d : List (BitVec 8) := (List.range 40).map (BitVec.ofNat 8)
    let a := P.append (P.append (P.new ⟨1, 2, 3, 4⟩) (d.take 31)) (d.drop 31)
    let b := P.append (P.new ⟨1, 2, 3, 4⟩) d
    a.buffer.asSlice = b.buffer.asSlice ∧ legacyCheckpointBuf a ≠ legacyCheckpointBuf b ∧ P.checkpoint a = P.checkpoint b := by
  decide +kernel

end HH.C14
