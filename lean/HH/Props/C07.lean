import HH.Proofs.HasherAbs
import HH.Props.C01
import HH.Props.EndToEnd
/-!
# C07 — Default-constructed hashers are the zero-key HighwayHash

The model's `default` of each back end is the transcription of the (repaired) `impl Default`:
`Self::new(Key::default())` / `force_new(Key::default())`.  On the pinned tree a66ef5b the derived
`Default` produced an all-zero state (`HH.C07.legacy_default_ne`), which is the defect fixed by
commit acfa546; the correspondence check `ckpt(default)` vs model is what ties the model to the code.
-/
namespace HH.C07

/-- `Hasher.default_eq_new` under the name the C07 check audits -/
theorem default_eq_new (b : Backend) : Hasher.default b = Hasher.new b V4.zero := Hasher.default_eq_new b

/-- every default hasher is observationally the zero-key HighwayHash -/
theorem default_hash (b : Backend) (h : Hasher) (hh : Hasher.default b = some h)
    (chunks : List (List (BitVec 8))) (w : Width) :
    (chunks.foldl Hasher.append h).finalize w
      = (chunks.foldl Hasher.append (Hasher.portable (P.new V4.zero))).finalize w :=
  (Hasher.Is.obs_eq (.default hh) (.portable_new _) chunks).1 w

theorem default_hash64_spec (d : List (BitVec 8)) : P.finalize64 (P.append P.default d) = Spec.hash64 V4.zero d :=
  C01.hash64_eq_spec V4.zero d

/-- headline, composed with C01/C05: a default-constructed hasher of ANY back end fed ANY chunking computes the
HighwayHash specification under the all-zero key, at all three widths — and its checkpoints are those of `new(0)` -/
theorem default_is_spec (b : Backend) (h : Hasher) (hh : Hasher.default b = some h)
    (chunks : List (List (BitVec 8))) (w : Width) :
    (chunks.foldl Hasher.append h).finalize w = EndToEnd.specDigest w V4.zero chunks.flatten ∧
    (chunks.foldl Hasher.append h).checkpoint = P.encodeAbs (absAppend (Spec.reset V4.zero, []) chunks.flatten) :=
  have s := (Hasher.Is.default hh).foldl chunks
  ⟨(s.finalize w).trans (EndToEnd.digestAbs_spec ..), s.checkpoint⟩

/-- non-vacuity: every back end has a default in the model -/
example : ∀ b : Backend, ∃ h, Hasher.default b = some h := fun b => Hasher.default_eq_new b ▸ Hasher.new_total b _

/-- the derived `Default` of the pinned tree: all-zero lanes, which skips the key schedule -/
def legacyDefault : P.State := ⟨⟨V4.zero, V4.zero, V4.zero, V4.zero⟩, Pkt.default⟩

/-- the defect, demonstrated in the kernel: the all-zero state hashes the empty input to 0, the
zero-key hasher to 0x7035da75b9d54469 -/
theorem legacy_default_ne :
    P.finalize64 legacyDefault = 0#64 ∧ P.finalize64 P.default = 0x7035da75b9d54469#64 := by
  decide +kernel

end HH.C07
