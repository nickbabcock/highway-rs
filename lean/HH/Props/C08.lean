import HH.PortablePanic
import HH.Proofs.HasherAbs
import HH.Props.C09
import Mathlib.Algebra.Group.Nat.Defs
import Batteries.Lean.Except
/-!
# C08 — no safe API call sequence can panic, in any build profile (model level)

`PP.*` are the portable-path functions with every panic point of the Rust source written out
(`HH/PortablePanic.lean`).  Under the packet invariant — established by every constructor,
including restore from arbitrary 164 bytes, and preserved by every operation — each of them
returns `.ok` in BOTH profiles, and the value is exactly the pure model's.

The two library imports: with Mathlib's `Monoid ℕ` in scope `2 ^ p.usizeBits` in `WideEnough` elaborates through
`Monoid.npow`, the form in which the checks audit it and the theorems that mention it; Batteries has the
`DecidableEq (Except ε α)` that lets the kernel decide `legacy_debug_panic`.
-/
namespace HH.C08
open PP

theorem dbg_of (p : Profile) (c : Bool) (msg : String) (h : c = true) : dbg p c msg = .ok () := by
  subst h; unfold dbg chk; split <;> rfl

theorem dbg_ok (p : Profile) (P : Prop) [Decidable P] (msg : String) (h : P) : dbg p (decide P) msg = .ok () :=
  dbg_of p _ msg (decide_eq_true h)

/-- a step that does not panic hands its value to the rest of the `do` block: the longer functions of `PP` are walked
through statement by statement with it, each step with the bound that keeps its panic point silent -/
theorem bind_ok {α β : Type} {x : R α} {a : α} (h : x = .ok a) (f : α → R β) : x >>= f = f a := by subst h; rfl

theorem sliceTo_ok {α} (l : List α) (n : Nat) (h : n ≤ l.length) : sliceTo l n = .ok (l.take n) := by
  simp [sliceTo, h]; rfl
theorem sliceFrom_ok {α} (l : List α) (n : Nat) (h : n ≤ l.length) : sliceFrom l n = .ok (l.drop n) := by
  simp [sliceFrom, h]; rfl
theorem copy_ok {α} (d s : List α) (h : d.length = s.length) : copyFromSlice d s = .ok s := by
  simp [copyFromSlice, h]; rfl
theorem splitAt_ok {α} (l : List α) (n : Nat) (h : n ≤ l.length) : splitAt l n = .ok (l.take n, l.drop n) := by
  simp [splitAt, h]; rfl
theorem add64_ok (p : Profile) (a b : Nat) (h : a + b < 2 ^ p.usizeBits) : add64 p a b = .ok (a + b) := by
  simp only [add64, dbg_ok p _ _ h]
  simp only [bind, Except.bind, pure, Except.pure, Nat.mod_eq_of_lt h]
theorem sub64_ok (p : Profile) (a b : Nat) (h : b ≤ a) (ha : a < 2 ^ p.usizeBits) : sub64 p a b = .ok (a - b) := by
  simp only [sub64, dbg_ok p _ _ h, bind, Except.bind, pure, Except.pure, Bits.wrap_sub h ha]

theorem subU64_ok (p : Profile) (a b : Nat) (h : b ≤ a) (ha : a < 2 ^ 64) : subU64 p a b = .ok (a - b) := by
  simp only [subU64, dbg_ok p _ _ h, bind, Except.bind, pure, Except.pure, Bits.wrap_sub h ha]

/-- `usize` has at least 16 bits on every Rust target -/
def WideEnough (p : Profile) : Prop := 65536 ≤ 2 ^ p.usizeBits

theorem add64_small (p : Profile) (hW : WideEnough p) (a b : Nat) (h : a + b < 65536) : add64 p a b = .ok (a + b) :=
  add64_ok p a b (by unfold WideEnough at hW; omega)
theorem sub64_small (p : Profile) (hW : WideEnough p) (a b : Nat) (h : b ≤ a) (ha : a < 65536) : sub64 p a b = .ok (a - b) :=
  sub64_ok p a b h (by unfold WideEnough at hW; omega)

theorem asSlice_ok (p : Profile) (k : Pkt) (h : k.idx ≤ k.buf.length) : asSlice p k = .ok k.asSlice := by
  simp only [asSlice, dbg_ok p _ _ h]
  rfl

theorem setTo_ok (p : Profile) (k : Pkt) (data : List (BitVec 8)) (hb : k.buf.length = 32) (hd : data.length < 32) :
    setTo p k data = .ok (k.setTo data) := by
  rw [setTo, bind_ok (dbg_ok p _ _ hd)]
  split
  · rename_i he; rw [List.isEmpty_iff.1 he]; rfl
  · rw [bind_ok (sliceTo_ok _ _ (by omega)), bind_ok (copy_ok _ _ (by rw [List.length_take]; omega))]; rfl

theorem fill_ok (p : Profile) (hW : WideEnough p) (k : Pkt) (data : List (BitVec 8)) (hk : k.Inv) :
    fill p k data = .ok (k.fill data) := by
  obtain ⟨hi, hb⟩ := hk
  have hdl : (List.drop k.idx k.buf).length = 32 - k.idx := by rw [List.length_drop, hb]
  rw [fill, Pkt.fill, hdl, hb]
  split
  · rw [bind_ok (sliceTo_ok _ _ (by omega)), bind_ok (copy_ok _ _ (by rw [List.length_take]; omega)),
      bind_ok (add64_small p hW _ _ (by omega)), List.drop_drop]; rfl
  · rw [bind_ok (splitAt_ok _ _ (by omega))]
    dsimp only
    rw [bind_ok (copy_ok _ _ (by rw [hdl, List.length_take]; omega)), List.drop_of_length_le (l := k.buf) (by omega),
      List.append_nil]; rfl

/-- the shared `append` skeleton never panics for ANY state type and packet update (hence for the SSE4.1, AVX2,
NEON and Wasm instantiations, whose updates are panic-free intrinsic code), and computes `appendG` -/
theorem appendG_ok {S : Type} (p : Profile) (hW : WideEnough p) (upd : S → List (BitVec 8) → S) (x : S × Pkt)
    (data : List (BitVec 8)) (hx : x.2.Inv) :
    PP.appendG p upd x data = .ok (appendG upd x data) := by
  have hr (s : S) (d : List (BitVec 8)) : (absorb upd d.length s d).2.length < 32 := packetise_rem_lt upd s d
  simp only [PP.appendG, appendG]
  split
  · simp only [bind, Except.bind, setTo_ok p _ _ hx.2 (hr _ _)]; rfl
  · simp only [bind, Except.bind, fill_ok p hW _ _ hx]
    by_cases hf : x.2.idx + data.length < 32
    · obtain ⟨q, hq, -, -⟩ := Pkt.fill_lt hx hf
      rw [hq]; rfl
    · obtain ⟨q, hq, -, hbl⟩ := Pkt.fill_ge hx (d := data) (by omega)
      simp only [hq, Pkt.inner, setTo_ok p _ _ hbl (hr _ _)]; rfl

/-- `PortableHash::append` is that skeleton at `update ∘ data_to_lanes` -/
theorem append_eq_appendG (p : Profile) (x : P.State) (data : List (BitVec 8)) :
    PP.append p x data = (PP.appendG p P.updPacket (x.st, x.buffer) data).map fun r => ⟨r.1, r.2⟩ := by
  simp only [PP.append, PP.appendG]
  split
  · cases PP.setTo p x.buffer _ <;> rfl
  · cases PP.fill p x.buffer data with
    | error e => rfl
    | ok r =>
      obtain ⟨k', _ | tail⟩ := r
      · rfl
      · simp only [bind, Except.bind]; cases PP.setTo p k' _ <;> rfl

/-- `append` never panics and computes the pure model's result -/
theorem append_ok (p : Profile) (hW : WideEnough p) (x : P.State) (data : List (BitVec 8)) (hx : x.buffer.Inv) :
    PP.append p x data = .ok (P.append x data) := by
  rw [append_eq_appendG, appendG_ok p hW _ _ _ hx]; rfl

/-- instances: `append` of the four SIMD back ends (their models ARE `appendG` at their own `updPacket`) -/
theorem sse_append_ok (p : Profile) (hW : WideEnough p) (x : Sse.State) (d : List (BitVec 8)) (hx : x.buffer.Inv) :
    PP.appendG p Sse.updPacket (x.r, x.buffer) d = .ok ((Sse.append x d).r, (Sse.append x d).buffer) :=
  appendG_ok p hW _ _ d hx
theorem avx_append_ok (p : Profile) (hW : WideEnough p) (x : Avx.State) (d : List (BitVec 8)) (hx : x.buffer.Inv) :
    PP.appendG p Avx.updPacket (x.r, x.buffer) d = .ok ((Avx.append x d).r, (Avx.append x d).buffer) :=
  appendG_ok p hW _ _ d hx
theorem neon_append_ok (p : Profile) (hW : WideEnough p) (x : NeonB.State) (d : List (BitVec 8)) (hx : x.buffer.Inv) :
    PP.appendG p NeonB.updPacket (x.r, x.buffer) d = .ok ((NeonB.append x d).r, (NeonB.append x d).buffer) :=
  appendG_ok p hW _ _ d hx
theorem wasm_append_ok (p : Profile) (hW : WideEnough p) (x : WasmB.State) (d : List (BitVec 8)) (hx : x.buffer.Inv) :
    PP.appendG p WasmB.updPacket (x.r, x.buffer) d = .ok ((WasmB.append x d).r, (WasmB.append x d).buffer) :=
  appendG_ok p hW _ _ d hx

theorem rotHalf_ok (p : Profile) (count : Nat) (h : BitVec 32) (h1 : 1 ≤ count) (h2 : count < 32) :
    rotHalf p count h = .ok ((h <<< (count % 32)) ||| (h >>> (((2 ^ 64 + 32 - count) % 2 ^ 64) % 32))) := by
  simp only [rotHalf, dbg_ok p _ _ h2, bind, Except.bind, subU64_ok p 32 count (by omega) (by omega),
    dbg_ok p _ _ (show 32 - count < 32 by omega), pure, Except.pure, Bits.wrap_sub (m := 2 ^ 64) (k := 32) (n := count) (by omega) (by decide)]

theorem rot32Lane_ok (p : Profile) (count : Nat) (lane : BitVec 64) (h1 : 1 ≤ count) (h2 : count < 32) :
    PP.rot32Lane p count lane = .ok (P.rot32Lane count lane) := by
  simp only [PP.rot32Lane, rotHalf_ok p count _ h1 h2, bind, Except.bind, pure, Except.pure, P.rot32Lane]

theorem updateLanes_ok (p : Profile) (s : St) (size : Nat) (h1 : 1 ≤ size) (h2 : size < 32) :
    PP.updateLanes p s size = .ok (P.updateLanes s size) := by
  have hov : ((BitVec.ofNat 64 size <<< 32).toNat + (BitVec.ofNat 64 size).toNat) < 2 ^ 64 := by
    simp only [BitVec.toNat_shiftLeft, BitVec.toNat_ofNat, Nat.shiftLeft_eq]; omega
  simp only [PP.updateLanes, dbg_ok p _ _ hov, bind, Except.bind, mapV4, rot32Lane_ok p size _ h1 h2, pure, Except.pure,
    P.updateLanes, V4.map]

theorem index_ok (l : List (BitVec 8)) (i : Nat) (h : i < l.length) : index l i = .ok (l.getD i 0) := by
  simp [index, List.getD_eq_getElem?_getD, List.getElem?_eq_getElem h]; rfl

/-- every slice, index and `usize` operation of `remainder` is in range whenever fewer than 32 bytes are pending -/
theorem remainder_ok (p : Profile) (hW : WideEnough p) (bytes : List (BitVec 8)) (h : bytes.length < 32) :
    PP.remainder p bytes = .ok (P.remainder bytes) := by
  have hz : (zeros 32).length = 32 := List.length_replicate
  unfold PP.remainder P.remainder
  generalize hn : bytes.length = n at h ⊢
  -- `n = jump + sizeMod4` with `sizeMod4 < 4` is all that the bounds below need
  have hm4 : n % 4 < 4 := Nat.mod_lt _ (by decide)
  obtain ⟨j, hj⟩ := Nat.exists_eq_add_of_le' (Nat.mod_le n 4)
  generalize n % 4 = m at hm4 hj ⊢
  subst hj
  have hgt : ¬ j + m > 32 := Nat.not_lt.2 (Nat.le_of_lt h)
  have hjb : j ≤ bytes.length := hn ▸ Nat.le_add_right j m
  simp only [Nat.add_sub_cancel]
  rw [if_neg hgt, if_neg hgt, bind_ok (sliceFrom_ok bytes j hjb), bind_ok (sliceTo_ok (zeros 32) j (by omega)),
    bind_ok (sliceTo_ok bytes j hjb), bind_ok (copy_ok _ _ (by rw [List.length_take, List.length_take, hz]; omega))]
  by_cases c16 : ((j + m) / 16) % 2 = 1
  · -- `size & 16`: the last four bytes go to 28..31
    have h16 : 16 ≤ j + m := by omega
    rw [if_pos c16, if_pos c16]
    clear c16
    rw [bind_ok (add64_small p hW j m (by omega)), bind_ok (sub64_small p hW (j + m) 4 (by omega) (by omega)),
      bind_ok (sliceFrom_ok bytes (j + m - 4) (by omega)),
      bind_ok (sliceFrom_ok _ 28 (by rw [List.length_append, List.length_take, zeros, List.length_replicate]; omega))]
    rfl
  · rw [if_neg c16, if_neg c16]
    clear c16
    by_cases c0 : m ≠ 0
    · -- one to three stragglers, packed at 16..18
      have hr : (bytes.drop j).length = m := by rw [List.length_drop]; omega
      rw [if_pos c0, if_pos c0, bind_ok (index_ok _ 0 (by omega)),
        bind_ok (index_ok _ (m >>> 1) (by rw [Nat.shiftRight_eq_div_pow]; omega)), bind_ok (sub64_small p hW m 1 (by omega) (by omega)),
        bind_ok (index_ok _ (m - 1) (by omega)), Nat.shiftRight_eq_div_pow, Nat.pow_one]
      rfl
    · rw [if_neg c0, if_neg c0]; rfl

theorem finalizeCommon_ok (p : Profile) (hW : WideEnough p) (n : Nat) (x : P.State) (hx : x.buffer.Inv) :
    PP.finalizeCommon p n x = .ok (P.finalizeCommon n x) := by
  rw [PP.finalizeCommon, P.finalizeCommon]
  cases h0 : !x.buffer.isEmpty
  · rfl
  · have h1 : 1 ≤ x.buffer.idx := by simp [Pkt.isEmpty] at h0; omega
    rw [if_pos rfl, PP.updateRemainder, bind_ok (updateLanes_ok p _ _ h1 hx.1), bind_ok (asSlice_ok p _ (Nat.le_of_lt (hx.2 ▸ hx.1))),
      bind_ok (remainder_ok p hW _ (Pkt.asSlice_length hx ▸ hx.1))]
    rfl

theorem finalize64_ok (p : Profile) (hW : WideEnough p) (x : P.State) (hx : x.buffer.Inv) : PP.finalize64 p x = .ok (P.finalize64 x) := by
  simp only [PP.finalize64, finalizeCommon_ok p hW _ x hx, bind, Except.bind, pure, Except.pure, P.finalize64]
theorem finalize128_ok (p : Profile) (hW : WideEnough p) (x : P.State) (hx : x.buffer.Inv) : PP.finalize128 p x = .ok (P.finalize128 x) := by
  simp only [PP.finalize128, finalizeCommon_ok p hW _ x hx, bind, Except.bind, pure, Except.pure, P.finalize128]
theorem finalize256_ok (p : Profile) (hW : WideEnough p) (x : P.State) (hx : x.buffer.Inv) : PP.finalize256 p x = .ok (P.finalize256 x) := by
  simp only [PP.finalize256, finalizeCommon_ok p hW _ x hx, bind, Except.bind, pure, Except.pure, P.finalize256]

theorem checkpoint_ok (p : Profile) (x : P.State) (hx : x.buffer.Inv) : PP.checkpoint p x = .ok (P.checkpoint x) := by
  have hl := Pkt.asSlice_length hx
  have hi : x.buffer.idx ≤ (zeros 32).length := Nat.le_of_lt (List.length_replicate ▸ hx.1)
  rw [PP.checkpoint, bind_ok (asSlice_ok p _ (Nat.le_of_lt (hx.2 ▸ hx.1))), bind_ok (sliceTo_ok _ _ (hl ▸ hi)),
    bind_ok (copy_ok _ _ (by rw [List.length_take, hl]; exact Nat.min_eq_left hi)), bind_ok (copy_ok (zeros 4) (toLE32 _) rfl)]
  rfl

/-- restore from ANY 164-byte array: no panic point fires, in either profile -/
theorem fromCheckpoint_ok (p : Profile) (hW : WideEnough p) (c : List (BitVec 8)) (hc : c.length = 164) :
    PP.fromCheckpoint p c = .ok (P.fromCheckpoint c) := by
  have h0 : chk (decide (c.length = 164)) "not a [u8; 164]" = .ok () := by rw [chk, decide_eq_true hc]; rfl
  rw [PP.fromCheckpoint, bind_ok h0, bind_ok (sliceTo_ok _ _ (by rw [List.length_take, List.length_drop, hc]; omega)),
    bind_ok (fill_ok p hW _ _ Pkt.default_inv)]
  rfl

/-- a sequence of `append` calls in the panicking semantics -/
def appendAll (p : Profile) : P.State → List (List (BitVec 8)) → PP.R P.State
  | x, [] => .ok x
  | x, d :: ds => match PP.append p x d with
    | .ok x' => appendAll p x' ds
    | .error e => .error e

/-- no history of safe calls on a hasher that satisfies the invariant panics, with or without
overflow checks / debug assertions, on every pointer width ≥ 16 bits: any number of appends of any
lengths, then any finalisation and checkpoint; and the results are those of the width-free pure
model (so they do not depend on the pointer width: the model half of C17) -/
theorem history_ok (p : Profile) (hW : WideEnough p) (chunks : List (List (BitVec 8))) :
    ∀ (x : P.State), x.buffer.Inv →
      appendAll p x chunks = .ok (chunks.foldl P.append x) ∧
      PP.finalize64 p (chunks.foldl P.append x) = .ok (P.finalize64 (chunks.foldl P.append x)) ∧
      PP.finalize128 p (chunks.foldl P.append x) = .ok (P.finalize128 (chunks.foldl P.append x)) ∧
      PP.finalize256 p (chunks.foldl P.append x) = .ok (P.finalize256 (chunks.foldl P.append x)) ∧
      PP.checkpoint p (chunks.foldl P.append x) = .ok (P.checkpoint (chunks.foldl P.append x)) := by
  induction chunks with
  | nil =>
    intro x hx
    exact ⟨rfl, finalize64_ok p hW x hx, finalize128_ok p hW x hx, finalize256_ok p hW x hx, checkpoint_ok p x hx⟩
  | cons d ds ih =>
    intro x hx
    simp only [appendAll, append_ok p hW x d hx, List.foldl_cons]
    exact ih (P.append x d) (appendG_abs P.updPacket (x.st, x.buffer) d hx).2

/-- every way of obtaining a portable hasher establishes the invariant — including restore from
arbitrary bytes — so `history_ok` applies to every reachable hasher -/
theorem constructors_inv (k : V4) (c : List (BitVec 8)) (hc : c.length = 164) :
    (P.new k).buffer.Inv ∧ P.default.buffer.Inv ∧ (P.fromCheckpoint c).buffer.Inv :=
  ⟨P.new_inv k, P.new_inv _, (P.fromCheckpoint_abs c hc).2⟩

/-! ### SIMD back ends: the slices and indices of `remainder` (the only data-dependent slicing they
do besides the shared `append` skeleton) are in range for every pending count — with the region
exposing exactly `buffer.as_slice()` and NOTHING behind it (`rest = []`), an out-of-range slice or
index, i.e. a panic, would make the footprint model return `none` -/

theorem sse_remainder_no_oob (buf : List (BitVec 8)) (n : Nat) (hb : buf.length = 32) (h : n < 32) :
    (FP.sseRemainder (C09.expose (buf.take n) []) n).isSome = true := by
  rw [C09.sse_remainder_in_bounds buf n hb h []]; rfl
theorem avx_remainder_no_oob (buf : List (BitVec 8)) (n : Nat) (hb : buf.length = 32) (h : n < 32) :
    (FP.avxRemainder 0 (C09.expose (buf.take n) []) n).isSome = true := by
  rw [C09.avx_remainder_in_bounds buf n hb h [] 0 rfl]; rfl
theorem neon_remainder_no_oob (buf : List (BitVec 8)) (n : Nat) (hb : buf.length = 32) (h : n < 32) :
    (FP.neonRemainder (C09.expose (buf.take n) []) n).isSome = true := by
  rw [C09.neon_remainder_in_bounds buf n hb h []]; rfl
theorem wasm_remainder_no_oob (bytes : List (BitVec 8)) (h : bytes.length < 32) :
    (FP.wasmRemainder (C09.expose bytes []) bytes.length).isSome = true := by
  rw [C09.wasm_remainder_in_bounds bytes h []]; rfl

theorem profiles_wide_enough : WideEnough Profile.debug ∧ WideEnough Profile.release ∧ WideEnough ⟨true, 32⟩ ∧ WideEnough ⟨true, 16⟩ := by
  unfold WideEnough Profile.debug Profile.release; decide

/-- non-vacuity of `history_ok`: its hypotheses are met by the debug and release profiles and by every
constructed hasher (here: restored from the all-ones array) -/
example : WideEnough Profile.debug ∧ (P.fromCheckpoint (List.replicate 164 0xff#8)).buffer.Inv :=
  ⟨profiles_wide_enough.1, (constructors_inv ⟨0, 0, 0, 0⟩ (List.replicate 164 0xff#8) List.length_replicate).2.2⟩

/-- the defect of the pinned tree, in the panicking semantics: a count field of 32 restores
`idx = 32`, and `finalize64` then panics in the debug profile (shift overflow), while release
silently computes a back-end dependent value -/
theorem legacy_debug_panic :
    let x : P.State := ⟨(P.new ⟨1, 2, 3, 4⟩).st, ⟨zeros 32, 32⟩⟩
    PP.finalize64 .debug x = .error "attempt to shift left with overflow" ∧
    (PP.finalize64 .release x).isOk = true := by
  decide +kernel

end HH.C08
