import HH.Props.C01
import HH.Props.Irrelevance
/-!
# End to end: the machine computes the HighwayHash specification

For every environment (target class, std, compile-time and detected features), every key, every
sequence of chunks fed through `append` to a `HighwayHasher` or `PortableHash` obtained from `new`,
the final `finalizeN` output of the machine is the specification's digest of the concatenation.
This single statement composes C01 (portable = spec), C02/C10 (whatever back end is selected),
C05 (chunking) on the interpreter of API histories that the correspondence check runs against the
real crate.
-/
namespace HH.EndToEnd

def specDigest (w : Width) (k : V4) (d : List (BitVec 8)) : Digest :=
  match w with
  | .w64 => .d64 (Spec.hash64 k d)
  | .w128 => .d128 (Spec.hash128 k d)
  | .w256 => .d256 (Spec.hash256 k d)

theorem digestAbs_spec (w : Width) (k : V4) (d : List (BitVec 8)) :
    digestAbs w (absAppend (Spec.reset k, []) d) = specDigest w k d := by
  -- through the portable hasher
  rw [← ((Hasher.Is.portable_new k).append d).finalize]
  cases w
  · exact congrArg Digest.d64 (C01.hash64_eq_spec k d)
  · exact congrArg Digest.d128 (C01.hash128_eq_spec k d)
  · exact congrArg Digest.d256 (C01.hash256_eq_spec k d)

theorem run_appends (env : Env) (h : Nat) (chunks : List (List (BitVec 8))) :
    ∀ (w : World) (x : Handle) (a : St × List (BitVec 8)), w.get h = some x → x.h.Is a →
      ∃ y, (run env w (chunks.map (Op.append h))).1.get h = some y ∧ y.h.Is (absAppend a chunks.flatten) := by
  induction chunks with
  | nil => exact fun w x a hx s => ⟨x, hx, s.foldl []⟩
  | cons c cs ih =>
    intro w x a hx s
    have hstep : (step env w (.append h c)).1.get h = some { x with h := x.h.append c } := by
      simp [step, hx, World.get_put]
    obtain ⟨y, hy, sy⟩ := ih _ _ _ hstep (s.append c)
    exact ⟨y, by simpa [run] using hy, absAppend_assoc a c cs.flatten ▸ sy⟩

theorem machine_computes_spec (env : Env) (sel : Sel) (hs : Irrelevance.selOk sel) (k : V4)
    (chunks : List (List (BitVec 8))) (w : Width) :
    (run env [] ([Op.new 0 sel false k] ++ chunks.map (Op.append 0) ++ [Op.fin 0 w])).2.getLast?
      = some (Out.digest (specDigest w k chunks.flatten)) := by
  obtain ⟨x, hx, sx⟩ := Irrelevance.construct_ok (force := false) (restore := false) env hs (Irrelevance.lands_new k)
  have hw1 : (run env [] [Op.new 0 sel false k]).1.get 0 = some (mkHandle sel x) := by
    simp [run, step, hx, World.get_put]
  obtain ⟨y, hy, sy⟩ := run_appends env 0 chunks _ _ _ hw1 sx
  have e1 := run_append env [] ([Op.new 0 sel false k] ++ chunks.map (Op.append 0)) [Op.fin 0 w]
  have e2 := run_append env [] [Op.new 0 sel false k] (chunks.map (Op.append 0))
  rw [e1.1]
  have hworld : (run env [] ([Op.new 0 sel false k] ++ chunks.map (Op.append 0))).1.get 0 = some y := by
    rw [e2.2]; exact hy
  simp only [run, step, hworld, List.getLast?_append, List.getLast?_singleton, Option.some_or]
  rw [sy.finalize, digestAbs_spec]

/-- non-vacuity -/
example : Irrelevance.selOk .auto := trivial

end HH.EndToEnd
