import HH.Proofs.MachineLemmas
import HH.Proofs.HasherAbs
import HH.Props.C01
/-!
# C12 — std `Hasher` / `io::Write` / `BuildHasher` adapters are faithful

In the model the adapters are what `src/macros.rs` and `src/hash.rs` say they are: `write` is
`append`, `finish` is `finalize64` of a clone, `io::Write::write` is `append` returning the full
length, `flush` does nothing, `build_hasher` is `HighwayHasher::new(self.key)`.  The theorems are
therefore short corollaries of the abstraction lemmas (`Hasher.Is`) and of `observer_world`; what makes them say something about the code is the
correspondence stream, which drives the real trait implementations.
-/
namespace HH.C12

/-- `Hasher::finish` after any sequence of writes is the 64-bit hash of exactly the bytes written so
far (for a hasher of any back end built from a key) -/
theorem finish_is_hash_of_written (b : Backend) (k : V4) (h : Hasher) (hh : Hasher.new b k = some h)
    (writes : List (List (BitVec 8))) :
    (writes.foldl Hasher.append h).finalize64 = P.hash64 k writes.flatten := by
  have p := Hasher.Is.portable_new k
  rw [((Hasher.Is.new hh).foldl writes).finalize64, ← (p.append writes.flatten).finalize64]
  rfl

/-- … which is the HighwayHash specification's 64-bit digest of those bytes (composition with C01) -/
theorem finish_is_spec (b : Backend) (k : V4) (h : Hasher) (hh : Hasher.new b k = some h)
    (writes : List (List (BitVec 8))) :
    (writes.foldl Hasher.append h).finalize64 = Spec.hash64 k writes.flatten := by
  rw [finish_is_hash_of_written b k h hh writes]
  exact C01.hash64_eq_spec k writes.flatten

/-- `finish` does not change the hasher: it can be called repeatedly and between writes -/
theorem finish_pure (env : Env) (w : World) (h : Nat) : (step env w (.finish h)).1 = w :=
  observer_world env w (.finish h) rfl

/-- `io::Write::write` consumes the whole buffer, reports its full length, never fails -/
theorem write_consumes_all (env : Env) (w : World) (h : Nat) (d : List (BitVec 8)) (x : Handle)
    (hx : w.get h = some x) :
    (step env w (.ioWrite h d)).2 = .n d.length ∧
    (step env w (.ioWrite h d)).1.get h = some { x with h := x.h.append d } := by
  simp [step, hx, World.get_put]

/-- `flush` succeeds and does nothing -/
theorem flush_noop (env : Env) (w : World) (h : Nat) (x : Handle) (hx : w.get h = some x) :
    step env w (.flush h) = (w, .ok) := by
  simp [step, hx]

/-- `build_hasher` hands out hashers that depend on nothing but the builder's key (and the build
configuration): independent of the world, of the builder instance, of earlier hashers -/
theorem build_hasher_depends_on_key_only (env : Env) (w1 w2 : World) (h : Nat) (k : V4) :
    (step env w1 (.new h .auto false k)).1.get h = (step env w2 (.new h .auto false k)).1.get h ∧
    (step env w1 (.new h .auto false k)).2 = (step env w2 (.new h .auto false k)).2 := by
  simp only [step]
  split <;> simp [World.get_put, World.get_del]

/-- hence equal values (equal byte streams fed by their `Hash` impl) hash equally across builder
instances: the result is the portable 64-bit hash of (key, bytes) -/
theorem hash_one_value (c : Cfg) (cpu : Cpu) (k : V4) (h : Hasher) (hh : Hasher.new (selectNew c cpu) k = some h)
    (stream : List (List (BitVec 8))) :
    (stream.foldl Hasher.append h).finalize64 = P.hash64 k stream.flatten :=
  finish_is_hash_of_written _ k h hh stream

/-- `BuildHasher::hash_one(value)` as a machine operation: in EVERY configuration (whatever back end
the ladder selects) and whatever else is alive, the output is the portable 64-bit hash of exactly the
bytes the value's `Hash` impl feeds through `Hasher::write` — however they are split into calls — and
the world is unchanged -/
theorem hash_one_op (env : Env) (w : World) (k : V4) (ws : List (List (BitVec 8))) :
    step env w (.hashOne k ws) = (w, .digest (.d64 (P.hash64 k ws.flatten))) := by
  obtain ⟨h, hh⟩ := Hasher.new_total (selectNew env.cfg env.cpu) k
  have hv := hash_one_value env.cfg env.cpu k h hh ws
  simp only [step, construct, resolve, Bool.false_eq_true, ↓reduceIte, hh, Option.map_some, mkHandle, hv]

/-- the provided methods (`write_u8 … write_usize`, `write_str`, `write_vectored` loops, `write_fmt`)
are sequences of `write` calls: their effect on any hasher (any back end, fresh or restored) is that of
ONE append of the concatenated bytes, and they always succeed -/
theorem provided_writes_op (env : Env) (w : World) (h : Nat) (x : Handle) (hx : w.get h = some x) (hi : x.h.Inv)
    (ws : List (List (BitVec 8))) :
    (step env w (.writes h ws)).2 = .ok ∧
    ∃ y, (step env w (.writes h ws)).1.get h = some y ∧ y.auto = x.auto ∧ y.h.Inv ∧
      y.h.abs = (x.h.append ws.flatten).abs := by
  have a := hi.is.foldl ws
  simp only [step, hx, World.get_put, ↓reduceIte, true_and]
  exact ⟨_, rfl, rfl, a.inv, a.abs_eq.trans (hi.is.append _).abs_eq.symm⟩

/-- hashing a value of a modelled shape through `hash_one`: a function of (key, value, target
endianness / pointer width) only — never of the build configuration, CPU, or other hashers -/
theorem hash_one_of_value (env : Env) (w : World) (t : StdT.Target) (k : V4) (v : StdT.Val) :
    (step env w (.hashOne k (StdT.writes t v))).2 = .digest (.d64 (P.hash64 k (StdT.stream t v))) := by
  rw [hash_one_op]; rfl

/-- non-vacuity: a `u32` and a `&str` on a little-endian 64-bit target feed the bytes std documents -/
example : StdT.stream ⟨false, 8⟩ (.pair (.int .w32 0xdeadbeef) (.str [0x68, 0x69])) = [0xef, 0xbe, 0xad, 0xde, 0x68, 0x69, 0xff] := by
  decide
example : StdT.stream ⟨true, 4⟩ (.bytes [1, 2]) = [0, 0, 0, 2, 1, 2] := by decide

end HH.C12
