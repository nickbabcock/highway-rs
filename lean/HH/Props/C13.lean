import HH.Proofs.MachineLemmas
/-!
# C13 — observers do not perturb state; clones are independent

Histories are lists of `Op`; `run` interprets them on the machine.  Observers are the operations
that take the hasher by shared reference: `checkpoint`, `Hasher::finish`, `flush`, `Debug`.
-/
namespace HH.C13

/-- the outputs of the ops tagged `true`, in order -/
def runTagged (env : Env) : World → List (Bool × Op) → List Out
  | _, [] => []
  | w, (t, op) :: rest =>
    let r := step env w op
    if t then r.2 :: runTagged env r.1 rest else runTagged env r.1 rest

/-- each observer leaves the whole world untouched (`observer_world` under the name the C13 check audits) -/
theorem observer_noop (env : Env) (w : World) (op : Op) (h : op.isObserver = true) : (step env w op).1 = w :=
  observer_world env w op h

/-- observers inserted at arbitrary positions of any history are removable: the final world and
every non-observer output equal those of the history with the observers deleted -/
theorem observers_removable (env : Env) (ops : List Op) : ∀ w : World,
    (run env w ops).1 = (run env w (ops.filter (fun op => !op.isObserver))).1 ∧
    runTagged env w (ops.map fun op => (!op.isObserver, op)) = (run env w (ops.filter (fun op => !op.isObserver))).2 := by
  induction ops with
  | nil => intro w; exact ⟨rfl, rfl⟩
  | cons op ops ih =>
    intro w
    by_cases ho : op.isObserver = true
    · have hw := observer_world env w op ho
      simp only [run, List.filter_cons, ho, Bool.not_true, Bool.false_eq_true, ↓reduceIte, List.map_cons, runTagged, hw]
      exact ih w
    · have ho' : op.isObserver = false := by simpa using ho
      simp only [run, List.filter_cons, ho', Bool.not_false, ↓reduceIte, List.map_cons, runTagged]
      have := ih (step env w op).1
      exact ⟨this.1, by rw [this.2]⟩

/-- a clone is identical to the original at the moment of cloning -/
theorem clone_identical (env : Env) (w : World) (src dst : Nat) (x : Handle) (h : w.get src = some x) :
    (step env w (.clone src dst)).1.get dst = some x ∧ (step env w (.clone src dst)).1.get src = some x := by
  simp only [step, h, World.get_put, ↓reduceIte]
  constructor
  · trivial
  · split <;> simp

/-- … and completely independent afterwards: no operation on other handles (in particular on the
clone) ever changes the original, and vice versa -/
theorem clone_independent (env : Env) (w : World) (keep : Nat) (ops : List Op)
    (hops : ∀ op ∈ ops, op.isReset = false ∧ keep ∉ op.handles) :
    (run env w ops).1.get keep = w.get keep := by
  induction ops generalizing w with
  | nil => rfl
  | cons op ops ih =>
    simp only [run]
    have h1 := hops op (List.mem_cons_self)
    rw [ih (step env w op).1 (fun o ho => hops o (List.mem_cons_of_mem _ ho))]
    exact step_frame env w op keep h1.1 h1.2

/-- `Hasher::finish` clones and finalises, so the handle is unchanged and a second `finish` returns the same digest -/
theorem finish_repeatable (env : Env) (w : World) (h : Nat) :
    (step env (step env w (.finish h)).1 (.finish h)).2 = (step env w (.finish h)).2 := by
  rw [observer_world env w (.finish h) rfl]

/-- non-vacuity of `clone_independent`: a history on the clone (handle 2) never names the original (handle 0) -/
example : ∀ op ∈ ([.append 2 [1, 2], .finish 2, .fin 2 .w64] : List Op), op.isReset = false ∧ 0 ∉ op.handles := by
  decide

example : (Op.ckpt 3).isObserver = true ∧ (Op.append 3 []).isObserver = false := ⟨rfl, rfl⟩

end HH.C13
