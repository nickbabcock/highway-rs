import HH.Proofs.HasherAbs
import HH.Props.C05
import HH.Props.C06
import HH.Props.C08
/-!
# C11 — restoring from arbitrary 164 bytes is total and back-end independent

`c` ranges over ALL byte lists of length 164 (arbitrary lanes, arbitrary buffer bytes, count
field over all of u32).  Totality/no-panic in both profiles is C08; here: the restored hasher
satisfies the packet invariant on every back end, all back ends are in the same abstract state
(hence every later observable result is equal), and the laws of a fresh hasher hold.
-/
namespace HH.C11

theorem restored_inv (b : Backend) (c : List (BitVec 8)) (hc : c.length = 164) (h : Hasher)
    (hh : Hasher.fromCheckpoint b c = some h) : h.Inv ∧ h.abs = P.decodeAbs c :=
  have r := Hasher.Is.fromCheckpoint hc hh
  ⟨r.inv, r.abs_eq⟩

/-- every later observable result is the same on every back end -/
theorem backend_independent (b1 b2 : Backend) (c : List (BitVec 8)) (hc : c.length = 164) (h1 h2 : Hasher)
    (e1 : Hasher.fromCheckpoint b1 c = some h1) (e2 : Hasher.fromCheckpoint b2 c = some h2)
    (hist : List (List (BitVec 8))) :
    (∀ w, (hist.foldl Hasher.append h1).finalize w = (hist.foldl Hasher.append h2).finalize w) ∧
    (hist.foldl Hasher.append h1).checkpoint = (hist.foldl Hasher.append h2).checkpoint ∧
    (hist.foldl Hasher.append h1).finalize64 = (hist.foldl Hasher.append h2).finalize64 :=
  (Hasher.Is.fromCheckpoint hc e1).obs_eq (.fromCheckpoint hc e2) hist

/-- a restored hasher obeys the laws of a fresh one -/
theorem restored_laws (b : Backend) (c : List (BitVec 8)) (hc : c.length = 164) (h : Hasher)
    (hh : Hasher.fromCheckpoint b c = some h) :
    -- an empty append changes nothing
    ((h.append []).checkpoint = h.checkpoint ∧ ∀ w, (h.append []).finalize w = h.finalize w) ∧
    -- streaming invariance
    (∀ (chunks : List (List (BitVec 8))) (w : Width), (chunks.foldl Hasher.append h).finalize w = (h.append chunks.flatten).finalize w) ∧
    -- its own checkpoints restore transparently, on any back end
    (∀ (b' : Backend) (h' : Hasher), Hasher.fromCheckpoint b' h.checkpoint = some h' →
      ∀ (suffix : List (List (BitVec 8))) (w : Width), (suffix.foldl Hasher.append h').finalize w = (suffix.foldl Hasher.append h).finalize w) :=
  have hi := (Hasher.Is.fromCheckpoint hc hh).inv
  ⟨(C05.empty_append h hi).2, C05.streaming h hi, fun b' h' hr suffix w => (C06.hop_transparent h hi b' h' hr suffix).1 w⟩

/-- totality, in the panicking semantics: restoring ANY 164-byte array fires no panic point, with or
without overflow checks / debug assertions, on every pointer width ≥ 16 bits (so also on 32-bit
targets, where `count as usize` is the whole range of `usize`), and then no later safe call
sequence panics either -/
theorem restore_never_panics (p : Profile) (hW : C08.WideEnough p) (c : List (BitVec 8)) (hc : c.length = 164)
    (chunks : List (List (BitVec 8))) :
    PP.fromCheckpoint p c = .ok (P.fromCheckpoint c) ∧
    C08.appendAll p (P.fromCheckpoint c) chunks = .ok (chunks.foldl P.append (P.fromCheckpoint c)) ∧
    PP.finalize64 p (chunks.foldl P.append (P.fromCheckpoint c)) = .ok (P.finalize64 (chunks.foldl P.append (P.fromCheckpoint c))) := by
  have hi := (P.fromCheckpoint_abs c hc).2
  have h := C08.history_ok p hW chunks (P.fromCheckpoint c) hi
  exact ⟨C08.fromCheckpoint_ok p hW c hc, h.1, h.2.1⟩

/-! `P.decode_pending_lt` and `P.decodeAbs_append` of the codec file, under the names the C11 check audits: the pending
count of the decoded state is < 32 whatever the count field says; which of the 164 bytes a restore reads. -/

theorem decoded_count_lt (c : List (BitVec 8)) : (P.decodeAbs c).2.length < 32 := P.decode_pending_lt c

theorem decode_split (lanes buf cnt : List (BitVec 8)) (hl : lanes.length = 128) (hb : buf.length = 32) :
    P.decodeAbs (lanes ++ (buf ++ cnt)) =
      (⟨P.v4OfBytes lanes, P.v4OfBytes (lanes.drop 32), P.v4OfBytes (lanes.drop 64), P.v4OfBytes (lanes.drop 96)⟩,
        buf.take (min (le32 cnt).toNat 31)) :=
  P.decodeAbs_append lanes buf cnt hl hb

/-- which of the 164 bytes matter: two arrays with the same 128 lane bytes, the same clamped count and the same first
`count` buffer bytes restore to the same logical state — stale buffer bytes beyond the count and count values above 31
are ignored (on every back end, by `restored_inv`) -/
theorem stale_bytes_ignored (lanes buf1 buf2 cnt1 cnt2 : List (BitVec 8)) (hl : lanes.length = 128)
    (hb1 : buf1.length = 32) (hb2 : buf2.length = 32)
    (hn : min (le32 cnt1).toNat 31 = min (le32 cnt2).toNat 31)
    (hp : buf1.take (min (le32 cnt1).toNat 31) = buf2.take (min (le32 cnt1).toNat 31)) :
    P.decodeAbs (lanes ++ (buf1 ++ cnt1)) = P.decodeAbs (lanes ++ (buf2 ++ cnt2)) := by
  rw [decode_split _ _ _ hl hb1, decode_split _ _ _ hl hb2, ← hn, hp]

/-- hasher-level form: the two arrays restored on any two back ends give hashers that agree on every later digest,
checkpoint and `finish` after any history -/
theorem restore_ignores_stale (b1 b2 : Backend) (lanes buf1 buf2 cnt1 cnt2 : List (BitVec 8)) (hl : lanes.length = 128)
    (hb1 : buf1.length = 32) (hb2 : buf2.length = 32) (hc1 : cnt1.length = 4) (hc2 : cnt2.length = 4)
    (hn : min (le32 cnt1).toNat 31 = min (le32 cnt2).toNat 31)
    (hp : buf1.take (min (le32 cnt1).toNat 31) = buf2.take (min (le32 cnt1).toNat 31))
    (h1 h2 : Hasher) (e1 : Hasher.fromCheckpoint b1 (lanes ++ (buf1 ++ cnt1)) = some h1)
    (e2 : Hasher.fromCheckpoint b2 (lanes ++ (buf2 ++ cnt2)) = some h2) (hist : List (List (BitVec 8))) :
    (∀ w, (hist.foldl Hasher.append h1).finalize w = (hist.foldl Hasher.append h2).finalize w) ∧
    (hist.foldl Hasher.append h1).checkpoint = (hist.foldl Hasher.append h2).checkpoint ∧
    (hist.foldl Hasher.append h1).finalize64 = (hist.foldl Hasher.append h2).finalize64 := by
  have l (buf cnt : List (BitVec 8)) (hb : buf.length = 32) (hc : cnt.length = 4) : (lanes ++ (buf ++ cnt)).length = 164 := by
    rw [List.length_append, List.length_append, hl, hb, hc]
  have s2 := Hasher.Is.fromCheckpoint (l _ _ hb2 hc2) e2
  rw [← stale_bytes_ignored lanes buf1 buf2 cnt1 cnt2 hl hb1 hb2 hn hp] at s2
  exact (Hasher.Is.fromCheckpoint (l _ _ hb1 hc1) e1).obs_eq s2 hist

/-- the checkpoint of a hasher restored from ANY 164 bytes is the normal form `encode (decode c)` of those bytes, the
same on every back end; re-restoring it is a fixed point (`C14.idempotent`) -/
theorem recheckpoint_normal_form (b : Backend) (c : List (BitVec 8)) (hc : c.length = 164) (h : Hasher)
    (hh : Hasher.fromCheckpoint b c = some h) :
    h.checkpoint = P.encodeAbs (P.decodeAbs c) ∧ h.checkpoint.length = 164 :=
  have s := Hasher.Is.fromCheckpoint hc hh
  ⟨s.checkpoint, s.checkpoint_length⟩

/-- non-vacuity: count 0xFFFFFFFF with garbage beyond byte 31 of the buffer and count 31 with zeros there meet the
premises of `stale_bytes_ignored` -/
example : min (le32 (List.replicate 4 0xff#8)).toNat 31 = min (le32 [31#8, 0, 0, 0]).toNat 31 ∧
    (List.replicate 32 0xaa#8).take 31 = (List.replicate 31 0xaa#8 ++ [0#8]).take 31 := by decide

/-- the count clamp of the pinned tree (`min(len, 32)`): a full buffer, `buf_index = 32` -/
def legacyFromCheckpoint (data : List (BitVec 8)) : P.State :=
  let p := P.fromCheckpoint data
  let buffered := (data.drop 128).take 32
  let len := (le32 (data.drop 160)).toNat
  ⟨p.st, (Pkt.default.fill (buffered.take (min len 32))).1⟩

/-- the defect, demonstrated in the kernel: with count = 32 the invariant `idx < 32` is violated
and an empty append changes the 64-bit result -/
theorem legacy_count32_breaks :
    let c := zeros 160 ++ [32#8, 0#8, 0#8, 0#8]
    (legacyFromCheckpoint c).buffer.idx = 32 ∧
    P.finalize64 (P.append (legacyFromCheckpoint c) []) ≠ P.finalize64 (legacyFromCheckpoint c) := by
  decide +kernel

/-- non-vacuity: count field 0xFFFFFFFF, all-ones lanes -/
example : ∃ h, Hasher.fromCheckpoint .avx (List.replicate 164 0xff#8) = some h := ⟨_, rfl⟩

end HH.C11
