import HH.Props.C15Facts
import HH.Props.C13
/-!
# C15 — hasher instances are isolated: no hidden shared state

The machine has no component besides the handle table, and `step` satisfies the frame and
locality lemmas; hence for any two families of operations over disjoint handle sets and ANY
interleaving of their steps, each family's outputs are exactly those of its isolated run.
(n families follow by taking "all the others" as the second family.)  The absence of process-global
state in the *source* is the regenerated fact `C15.no_global_state` (see `HH/Props/C15Facts.lean`).
-/
namespace HH.C15
open C13

/-- interleaving independence at the level of atomic API calls -/
theorem interleave_independent (env : Env) (S : Nat → Prop) (il : List (Bool × Op))
    (hA : ∀ p ∈ il, p.1 = true → p.2.isReset = false ∧ ∀ j ∈ p.2.handles, S j)
    (hB : ∀ p ∈ il, p.1 = false → p.2.isReset = false ∧ ∀ j ∈ p.2.handles, ¬ S j) :
    ∀ (w w' : World), (∀ j, S j → w.get j = w'.get j) →
      runTagged env w il = (run env w' ((il.filter (·.1)).map (·.2))).2 := by
  induction il with
  | nil => intro w w' _; rfl
  | cons p rest ih =>
    intro w w' agree
    obtain ⟨t, op⟩ := p
    have ih := ih (fun p hp => hA p (List.mem_cons_of_mem _ hp)) (fun p hp => hB p (List.mem_cons_of_mem _ hp))
    cases t with
    | true =>
      have h := hA _ List.mem_cons_self rfl
      have a := step_agree env h.1 h.2 agree
      simp only [runTagged, ↓reduceIte, List.filter_cons, List.map_cons, run]
      rw [a.1, ih _ _ a.2]
    | false =>
      have h := hB _ List.mem_cons_self rfl
      refine ih _ _ fun j hj => ?_
      rw [step_frame env w op j h.1 fun hm => h.2 j hm hj]; exact agree j hj

/-- non-vacuity: a concrete interleaving of two families (handles < 10 vs ≥ 10) meets the hypotheses -/
example :
    let il : List (Bool × Op) := [(true, .new 0 .auto false ⟨1, 2, 3, 4⟩), (false, .new 10 (.only .portable) false ⟨5, 6, 7, 8⟩),
      (true, .append 0 [1, 2, 3]), (false, .append 10 [9]), (false, .finish 10), (true, .clone 0 1), (true, .fin 0 .w256)]
    (∀ p ∈ il, p.1 = true → p.2.isReset = false ∧ ∀ j ∈ p.2.handles, j < 10) ∧
    (∀ p ∈ il, p.1 = false → p.2.isReset = false ∧ ∀ j ∈ p.2.handles, ¬ j < 10) := by
  decide

/-- the model has no state besides the handle table: two runs of one history from worlds that agree
on the handles the history names produce the same outputs, whatever else the worlds contain -/
theorem outputs_depend_on_own_handles (env : Env) (ops : List Op) (S : Nat → Prop)
    (hops : ∀ op ∈ ops, op.isReset = false ∧ ∀ j ∈ op.handles, S j) (w w' : World)
    (agree : ∀ j, S j → w.get j = w'.get j) : (run env w ops).2 = (run env w' ops).2 := by
  induction ops generalizing w w' with
  | nil => rfl
  | cons op ops ih =>
    have h := hops op List.mem_cons_self
    have a := step_agree env h.1 h.2 agree
    simp only [run]
    rw [a.1, ih (fun o ho => hops o (List.mem_cons_of_mem _ ho)) _ _ a.2]

end HH.C15
