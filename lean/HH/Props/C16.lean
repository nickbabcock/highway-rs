import HH.Props.FactsLib
/-!
# C16 — the portable path contains no unsafe code in any configuration

The property quantifies over program text and cfg combinations, so the object of the theorems is
`HH.Facts.facts`, regenerated from `/repo/src` by the `syn` translator on every run (all cfg
branches, macro bodies as token trees).  The theorems are decided by the kernel on the *current*
fact table; they are cfg-independent because the translator does not evaluate cfg.
-/
namespace HH.C16
open HH.Facts HH.FactsLib

/-- no `unsafe` token (block, fn, impl, trait, extern, inside macro bodies) in any portable file -/
theorem no_unsafe : (facts.all fun f => !(inP f && f.kind == "unsafe")) = true := by decide +kernel

theorem no_unsafe' (f : Fact) (hf : f ∈ facts) (hp : inP f = true) : f.kind ≠ "unsafe" := by
  have := List.all_eq_true.mp no_unsafe f hf
  intro hk; simp [hp, hk] at this

/-- no lint attribute of a portable file mentions `unsafe_code` (directly or inside `cfg_attr`) except
to deny or forbid it: nothing re-allows unsafe code -/
def strictUnsafeLints : List String :=
  ["inner deny(unsafe_code)", "inner forbid(unsafe_code)", "outer deny(unsafe_code)", "outer forbid(unsafe_code)"]
theorem no_lint_override :
    (facts.all fun f => !(inP f && (f.kind == "lint" || f.kind == "crate_attr") && has f.detail "unsafe_code")
      || strictUnsafeLints.contains f.detail || f.detail == "#![deny(unsafe_code)]" || f.detail == "#![forbid(unsafe_code)]") = true := by
  decide +kernel

/-- the crate root denies `unsafe_code` for every module that does not opt out -/
theorem lib_denies_unsafe :
    (facts.any fun f => f.file == "lib.rs" && f.kind == "lint" && f.detail == "inner deny(unsafe_code)" && f.cfg == "") = true := by
  decide +kernel

/-- no attribute that needs `unsafe` semantics and no foreign block in portable files -/
theorem no_unsafe_attr_or_extern :
    (facts.all fun f => !(inP f && (f.kind == "unsafe_attr" || f.kind == "extern_block"))) = true := by
  decide +kernel

/-- module closure, computed on the module graph of the current tree: every source file reachable from the
files `PortableHash` is written in — through `use` items, expression / type / macro-body paths into the
crate (`crate::m::f(..)` calls included), `super::` paths, root-level re-exports resolved to the module
they come from, and submodule declarations; `#[cfg(test)]` items excluded, every cfg branch included — is
free of `unsafe` tokens, unsafe attributes, foreign blocks and of lint attributes
that re-allow `unsafe_code`.  A new helper module with unsafe code called from the portable path (under
whatever cfg) falsifies this theorem; a harmless new import of an unsafe-free module does not. -/
theorem module_closure :
    (facts.all fun f => !(portableClosure.contains f.file) ||
      !(f.kind == "unsafe" || f.kind == "unsafe_attr" || f.kind == "extern_block" ||
        ((f.kind == "lint" || f.kind == "crate_attr") && has f.detail "unsafe_code" && !strictUnsafeLints.contains f.detail))) = true := by
  decide +kernel

theorem mem_closeSteps {f : String} (steps : List Nat) : ∀ {acc : List String}, f ∈ acc →
    f ∈ steps.foldl (fun acc _ => closeStep acc) acc := by
  induction steps with
  | nil => exact id
  | cons _ steps ih => exact fun h => ih (List.mem_eraseDups.2 (List.mem_append_left _ h))

/-- the five files the portable hasher is written in are in the closure (its starting set; on the current tree it is
exactly these five, which is not stated: a harmless new unsafe-free module may enlarge the closure without any alarm,
because the check only requires `module_closure`) -/
example : coreFiles.all (portableClosure.contains ·) = true :=
  List.all_eq_true.2 fun _ hf => List.contains_iff_mem.2 (mem_closeSteps _ hf)

/-- macros invoked by the portable hasher's files are never ones defined in a non-portable file of
the crate (such as `x86/macros.rs`): they are the crate's own `impl_write!`/`impl_hasher!` (defined in
macros.rs, free of unsafe tokens by `no_unsafe`) or macros of core/std -/
theorem macro_closure :
    (facts.all fun m => !(coreFiles.contains m.file && m.kind == "macro") ||
      facts.all fun d => !(d.kind == "macro_def" && d.detail == m.detail && !inP d)) = true := by
  decide +kernel

/-- no `#[path]` redirection: the modules of the crate root are the files they name -/
theorem no_path_redirect :
    (facts.all fun f => !(f.kind == "mod" && has f.detail "path=")) = true := by
  decide +kernel

/-- non-vacuity: the table is not empty and does contain unsafe facts elsewhere -/
theorem table_nontrivial : (facts.any fun f => f.kind == "unsafe" && f.file == "builder.rs") = true ∧ facts.length > 500 := by
  decide +kernel

end HH.C16
