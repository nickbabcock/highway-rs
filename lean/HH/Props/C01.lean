import HH.Proofs.PortableSpec
import HH.Props.Vectors
/-!
# C01 — the portable hasher computes exactly HighwayHash (64/128/256 bit)

`P.hashN key data` is the model of `PortableHash::new(key).hashN(data)` (`append` then
`finalizeN`, `src/traits.rs`); `Spec.hashN` is the specification of `HH/Spec.lean`.
The quantifiers are unbounded: every key, every byte string, every width.
Purity ("a pure function of (key, bytes, width)") is by construction: the model is a function.
-/
namespace HH.C01

theorem hash64_eq_spec (key : V4) (data : List (BitVec 8)) : P.hash64 key data = Spec.hash64 key data := by
  simp only [P.hash64, P.finalize64_eq, P.process_eq_spec, Spec.hash64, P.out64]

theorem hash128_eq_spec (key : V4) (data : List (BitVec 8)) : P.hash128 key data = Spec.hash128 key data := by
  simp only [P.hash128, P.finalize128_eq, P.process_eq_spec, Spec.hash128, P.out128]

theorem hash256_eq_spec (key : V4) (data : List (BitVec 8)) : P.hash256 key data = Spec.hash256 key data := by
  simp only [P.hash256, P.finalize256_eq, P.process_eq_spec, Spec.hash256, P.out256, P.moduleReduction_eq_spec]

/-! ### the specification reproduces the published vectors (checked by the kernel)

The kernel evaluates the portable model, which by the three theorems above is the same function: its mask-and-shift
arithmetic costs the kernel a third of what the byte lists of the specification cost.  The three widths are one statement
because they share work: for each input the absorbed state is the same, and the finalisations run 4, 6 and 10 rounds on
it, so in one evaluation the kernel computes the absorption and the common rounds once. -/

def testKey : V4 := ⟨0x0706050403020100#64, 0x0F0E0D0C0B0A0908#64, 0x1716151413121110#64, 0x1F1E1D1C1B1A1918#64⟩
def countBytes (n : Nat) : List (BitVec 8) := (List.range n).map (BitVec.ofNat 8)

theorem portable_vectors :
    (List.range 65).map (fun i => P.hash64 testKey (countBytes i)) = Vectors.expected64 ∧
    (List.range 65).map (fun i => P.hash128 testKey (countBytes i)) = Vectors.expected128 ∧
    (List.range 65).map (fun i => P.hash256 testKey (countBytes i)) = Vectors.expected256 := by
  decide +kernel

theorem portable_vectors64 : (List.range 65).map (fun i => P.hash64 testKey (countBytes i)) = Vectors.expected64 :=
  portable_vectors.1

theorem spec_vectors64 : (List.range 65).map (fun i => Spec.hash64 testKey (countBytes i)) = Vectors.expected64 := by
  simp only [← hash64_eq_spec]; exact portable_vectors.1
theorem spec_vectors128 : (List.range 65).map (fun i => Spec.hash128 testKey (countBytes i)) = Vectors.expected128 := by
  simp only [← hash128_eq_spec]; exact portable_vectors.2.1
theorem spec_vectors256 : (List.range 65).map (fun i => Spec.hash256 testKey (countBytes i)) = Vectors.expected256 := by
  simp only [← hash256_eq_spec]; exact portable_vectors.2.2

/-- README / lib.rs doc vectors and the two `≥ 0x80` vectors of tests/hash.rs -/
theorem spec_vectors_misc :
    Spec.hash64 ⟨1, 2, 3, 4⟩ [0xff#8] = 0x7858f24d2d79b2b2#64 ∧
    Spec.hash128 ⟨1, 2, 3, 4⟩ [0xff#8] = (0xbb007d2462e77f3c#64, 0x224508f916b3991f#64) ∧
    Spec.hash256 ⟨1, 2, 3, 4⟩ [0xff#8] = (0x7161cadbf7cd70e1#64, 0xaac4905de62b2f5e#64, 0x07b02b936933faa7#64, 0xc8efcfc45b239f8d#64) ∧
    Spec.hash64 ⟨1, 2, 3, 4⟩ ((List.range 33).map fun x => BitVec.ofNat 8 (128 + x)) = 0x53c516cce478cad7#64 ∧
    Spec.hash64 ⟨0, 0, 0, 0⟩ [] = 0x7035da75b9d54469#64 := by
  simp only [← hash64_eq_spec, ← hash128_eq_spec, ← hash256_eq_spec]; decide +kernel

/-- non-vacuity: the theorems talk about non-trivial inputs (33 bytes ≥ 0x80: one whole packet + a
1-byte remainder) -/
example : P.hash64 ⟨1, 2, 3, 4⟩ ((List.range 33).map fun x => BitVec.ofNat 8 (128 + x)) = 0x53c516cce478cad7#64 := by
  rw [hash64_eq_spec]; exact spec_vectors_misc.2.2.2.1

end HH.C01
