import HH.Props.FactsLib
/-!
# C18 (source half) — no allocation-capable construct in library code
-/
namespace HH.C18
open HH.Facts

/-- no allocation-capable name (alloc::, Vec, Box, String, Rc, Arc, vec!, format!, to_vec, to_owned,
to_string, collect, …) outside `#[cfg(test)]` items, in any file -/
theorem no_alloc_names : (facts.all fun f => !(f.kind == "alloc" && !f.test)) = true := by decide +kernel

/-- no `extern crate` (in particular no `extern crate alloc`) -/
theorem no_extern_crate : (facts.all fun f => !(f.kind == "extern_crate")) = true := by decide +kernel

/-- paths into `std` stay inside (a) the modules of `std` that are re-exports of `core` (which cannot
allocate: there is no allocator below `alloc`), and (b) the handful of `std::io` items an `io::Write`
adapter needs (`Write`, `Result`, `IoSlice`, `IoSliceMut`, `ErrorKind`).  Everything else in `std` — `env`,
`fs`, `vec`, `string`, `collections`, `boxed`, `rc`, `sync`, `thread`, `io::Error::new/other`, `io::BufWriter`,
… — may allocate and is rejected. -/
def coreMirrors : List String :=
  ["fmt", "hash", "mem", "ops", "cmp", "convert", "arch", "marker", "default", "clone", "num", "option", "result", "error", "iter",
   "slice", "str", "borrow", "any", "cell", "ptr", "time", "prelude", "primitive", "simd", "task", "future", "pin", "panic",
   "hint", "array", "ascii", "char", "u8", "u16", "u32", "u64", "u128", "usize", "i8", "i16", "i32", "i64", "i128", "isize",
   "is_x86_feature_detected", "debug_assert", "assert", "write", "writeln", "cfg", "compile_error", "concat", "stringify"]
def ioItems : List String := ["Write", "Result", "IoSlice", "IoSliceMut", "ErrorKind"]
def stdPathOk (p : String) : Bool :=
  match (HH.FactsLib.segsOf p).filter (· != "") with
  | "std" :: "io" :: item :: rest =>
    ioItems.contains item && (rest.isEmpty || item == "Write" || item == "ErrorKind" ||
      -- the variant constructors of `io::Result<T>` (`::std::io::Result::Ok(..)`): constructing a `Result` allocates nothing
      (item == "Result" && (rest == ["Ok"] || rest == ["Err"])))
  | "std" :: m :: _ => coreMirrors.contains m
  | _ => false
theorem std_paths : (facts.all fun f => !(f.kind == "std_path" && !f.test) || stdPathOk f.detail) = true := by
  decide +kernel

example : stdPathOk "::std::io::Write" = true ∧ stdPathOk "::std::fmt::Arguments" = true ∧ stdPathOk "::std::io::IoSlice" = true ∧
    stdPathOk "std::env::var" = false ∧ stdPathOk "::std::io::Error::other" = false ∧ stdPathOk "std::vec::Vec" = false ∧ stdPathOk "std::error::Error" = true ∧
    stdPathOk "::std::io::Result::Ok" = true ∧ stdPathOk "::std::io::Result::unwrap" = false := by decide +kernel

end HH.C18

