-- GENERATED by /verif/harness/facts (coregen) from src/portable.rs; do not edit.
import HH.Portable
import HH.Proofs.Bytes
set_option linter.unusedVariables false
namespace HH.Gen

def moduleReduction (a3u a2 a1 a0 : BitVec 64) : BitVec 64 × BitVec 64 :=
  let t1 : BitVec 64 := (a3u &&& (0x3fffffffffffffff#64))
  let t2 : BitVec 64 := (t1 <<< 1)
  let t3 : BitVec 64 := (a2 >>> 63)
  let t4 : BitVec 64 := (t2 ||| t3)
  let t5 : BitVec 64 := (a1 ^^^ t4)
  let t6 : BitVec 64 := (t1 <<< 2)
  let t7 : BitVec 64 := (a2 >>> 62)
  let t8 : BitVec 64 := (t6 ||| t7)
  let t9 : BitVec 64 := (t5 ^^^ t8)
  let t10 : BitVec 64 := (a2 <<< 1)
  let t11 : BitVec 64 := (a0 ^^^ t10)
  let t12 : BitVec 64 := (a2 <<< 2)
  let t13 : BitVec 64 := (t11 ^^^ t12)
  (t13, t9)

def permute (v : V4) : V4 :=
  let t1 : BitVec 64 := (BitVec.rotateLeft v.l2 32)
  let t2 : BitVec 64 := (BitVec.rotateLeft v.l3 32)
  let t3 : BitVec 64 := (BitVec.rotateLeft v.l0 32)
  let t4 : BitVec 64 := (BitVec.rotateLeft v.l1 32)
  ⟨t1, t2, t3, t4⟩

def zipperPair (v1 v0 a b : BitVec 64) : BitVec 64 × BitVec 64 :=
  let t1 : BitVec 64 := (v0 &&& (0xff000000#64))
  let t2 : BitVec 64 := (v1 &&& (0xff00000000#64))
  let t3 : BitVec 64 := (t1 ||| t2)
  let t4 : BitVec 64 := (t3 >>> 24)
  let t5 : BitVec 64 := (v0 &&& (0xff0000000000#64))
  let t6 : BitVec 64 := (v1 &&& (0xff000000000000#64))
  let t7 : BitVec 64 := (t5 ||| t6)
  let t8 : BitVec 64 := (t7 >>> 16)
  let t9 : BitVec 64 := (t4 ||| t8)
  let t10 : BitVec 64 := (v0 &&& (0xff0000#64))
  let t11 : BitVec 64 := (t9 ||| t10)
  let t12 : BitVec 64 := (v0 &&& (0xff00#64))
  let t13 : BitVec 64 := (t12 <<< 32)
  let t14 : BitVec 64 := (t11 ||| t13)
  let t15 : BitVec 64 := (v1 &&& (0xff00000000000000#64))
  let t16 : BitVec 64 := (t15 >>> 8)
  let t17 : BitVec 64 := (t14 ||| t16)
  let t18 : BitVec 64 := (v0 <<< 56)
  let t19 : BitVec 64 := (t17 ||| t18)
  let t20 : BitVec 64 := (a + t19)
  let t21 : BitVec 64 := (v1 &&& (0xff000000#64))
  let t22 : BitVec 64 := (v0 &&& (0xff00000000#64))
  let t23 : BitVec 64 := (t21 ||| t22)
  let t24 : BitVec 64 := (t23 >>> 24)
  let t25 : BitVec 64 := (v1 &&& (0xff0000#64))
  let t26 : BitVec 64 := (t24 ||| t25)
  let t27 : BitVec 64 := (v1 &&& (0xff0000000000#64))
  let t28 : BitVec 64 := (t27 >>> 16)
  let t29 : BitVec 64 := (t26 ||| t28)
  let t30 : BitVec 64 := (v1 &&& (0xff00#64))
  let t31 : BitVec 64 := (t30 <<< 24)
  let t32 : BitVec 64 := (t29 ||| t31)
  let t33 : BitVec 64 := (v0 &&& (0xff000000000000#64))
  let t34 : BitVec 64 := (t33 >>> 8)
  let t35 : BitVec 64 := (t32 ||| t34)
  let t36 : BitVec 64 := (v1 &&& (0xff#64))
  let t37 : BitVec 64 := (t36 <<< 48)
  let t38 : BitVec 64 := (t35 ||| t37)
  let t39 : BitVec 64 := (v0 &&& (0xff00000000000000#64))
  let t40 : BitVec 64 := (t38 ||| t39)
  let t41 : BitVec 64 := (b + t40)
  (t20, t41)

def update (s : St) (lanes : V4) : St :=
  let t1 : BitVec 64 := (s.v1.l0 + lanes.l0)
  let t2 : BitVec 64 := (s.v1.l1 + lanes.l1)
  let t3 : BitVec 64 := (s.v1.l2 + lanes.l2)
  let t4 : BitVec 64 := (s.v1.l3 + lanes.l3)
  let t5 : BitVec 64 := (t1 + s.mul0.l0)
  let t6 : BitVec 64 := (t2 + s.mul0.l1)
  let t7 : BitVec 64 := (t3 + s.mul0.l2)
  let t8 : BitVec 64 := (t4 + s.mul0.l3)
  let t9 : BitVec 64 := (t5 &&& (0xffffffff#64))
  let t10 : BitVec 64 := (s.v0.l0 >>> 32)
  let t11 : BitVec 64 := (t9 * t10)
  let t12 : BitVec 64 := (s.mul0.l0 ^^^ t11)
  let t13 : BitVec 64 := (t6 &&& (0xffffffff#64))
  let t14 : BitVec 64 := (s.v0.l1 >>> 32)
  let t15 : BitVec 64 := (t13 * t14)
  let t16 : BitVec 64 := (s.mul0.l1 ^^^ t15)
  let t17 : BitVec 64 := (t7 &&& (0xffffffff#64))
  let t18 : BitVec 64 := (s.v0.l2 >>> 32)
  let t19 : BitVec 64 := (t17 * t18)
  let t20 : BitVec 64 := (s.mul0.l2 ^^^ t19)
  let t21 : BitVec 64 := (t8 &&& (0xffffffff#64))
  let t22 : BitVec 64 := (s.v0.l3 >>> 32)
  let t23 : BitVec 64 := (t21 * t22)
  let t24 : BitVec 64 := (s.mul0.l3 ^^^ t23)
  let t25 : BitVec 64 := (s.v0.l0 + s.mul1.l0)
  let t26 : BitVec 64 := (s.v0.l1 + s.mul1.l1)
  let t27 : BitVec 64 := (s.v0.l2 + s.mul1.l2)
  let t28 : BitVec 64 := (s.v0.l3 + s.mul1.l3)
  let t29 : BitVec 64 := (t25 &&& (0xffffffff#64))
  let t30 : BitVec 64 := (t5 >>> 32)
  let t31 : BitVec 64 := (t29 * t30)
  let t32 : BitVec 64 := (s.mul1.l0 ^^^ t31)
  let t33 : BitVec 64 := (t26 &&& (0xffffffff#64))
  let t34 : BitVec 64 := (t6 >>> 32)
  let t35 : BitVec 64 := (t33 * t34)
  let t36 : BitVec 64 := (s.mul1.l1 ^^^ t35)
  let t37 : BitVec 64 := (t27 &&& (0xffffffff#64))
  let t38 : BitVec 64 := (t7 >>> 32)
  let t39 : BitVec 64 := (t37 * t38)
  let t40 : BitVec 64 := (s.mul1.l2 ^^^ t39)
  let t41 : BitVec 64 := (t28 &&& (0xffffffff#64))
  let t42 : BitVec 64 := (t8 >>> 32)
  let t43 : BitVec 64 := (t41 * t42)
  let t44 : BitVec 64 := (s.mul1.l3 ^^^ t43)
  let t45 : BitVec 64 := (t5 &&& (0xff000000#64))
  let t46 : BitVec 64 := (t6 &&& (0xff00000000#64))
  let t47 : BitVec 64 := (t45 ||| t46)
  let t48 : BitVec 64 := (t47 >>> 24)
  let t49 : BitVec 64 := (t5 &&& (0xff0000000000#64))
  let t50 : BitVec 64 := (t6 &&& (0xff000000000000#64))
  let t51 : BitVec 64 := (t49 ||| t50)
  let t52 : BitVec 64 := (t51 >>> 16)
  let t53 : BitVec 64 := (t48 ||| t52)
  let t54 : BitVec 64 := (t5 &&& (0xff0000#64))
  let t55 : BitVec 64 := (t53 ||| t54)
  let t56 : BitVec 64 := (t5 &&& (0xff00#64))
  let t57 : BitVec 64 := (t56 <<< 32)
  let t58 : BitVec 64 := (t55 ||| t57)
  let t59 : BitVec 64 := (t6 &&& (0xff00000000000000#64))
  let t60 : BitVec 64 := (t59 >>> 8)
  let t61 : BitVec 64 := (t58 ||| t60)
  let t62 : BitVec 64 := (t5 <<< 56)
  let t63 : BitVec 64 := (t61 ||| t62)
  let t64 : BitVec 64 := (t25 + t63)
  let t65 : BitVec 64 := (t6 &&& (0xff000000#64))
  let t66 : BitVec 64 := (t5 &&& (0xff00000000#64))
  let t67 : BitVec 64 := (t65 ||| t66)
  let t68 : BitVec 64 := (t67 >>> 24)
  let t69 : BitVec 64 := (t6 &&& (0xff0000#64))
  let t70 : BitVec 64 := (t68 ||| t69)
  let t71 : BitVec 64 := (t6 &&& (0xff0000000000#64))
  let t72 : BitVec 64 := (t71 >>> 16)
  let t73 : BitVec 64 := (t70 ||| t72)
  let t74 : BitVec 64 := (t6 &&& (0xff00#64))
  let t75 : BitVec 64 := (t74 <<< 24)
  let t76 : BitVec 64 := (t73 ||| t75)
  let t77 : BitVec 64 := (t5 &&& (0xff000000000000#64))
  let t78 : BitVec 64 := (t77 >>> 8)
  let t79 : BitVec 64 := (t76 ||| t78)
  let t80 : BitVec 64 := (t6 &&& (0xff#64))
  let t81 : BitVec 64 := (t80 <<< 48)
  let t82 : BitVec 64 := (t79 ||| t81)
  let t83 : BitVec 64 := (t5 &&& (0xff00000000000000#64))
  let t84 : BitVec 64 := (t82 ||| t83)
  let t85 : BitVec 64 := (t26 + t84)
  let t86 : BitVec 64 := (t7 &&& (0xff000000#64))
  let t87 : BitVec 64 := (t8 &&& (0xff00000000#64))
  let t88 : BitVec 64 := (t86 ||| t87)
  let t89 : BitVec 64 := (t88 >>> 24)
  let t90 : BitVec 64 := (t7 &&& (0xff0000000000#64))
  let t91 : BitVec 64 := (t8 &&& (0xff000000000000#64))
  let t92 : BitVec 64 := (t90 ||| t91)
  let t93 : BitVec 64 := (t92 >>> 16)
  let t94 : BitVec 64 := (t89 ||| t93)
  let t95 : BitVec 64 := (t7 &&& (0xff0000#64))
  let t96 : BitVec 64 := (t94 ||| t95)
  let t97 : BitVec 64 := (t7 &&& (0xff00#64))
  let t98 : BitVec 64 := (t97 <<< 32)
  let t99 : BitVec 64 := (t96 ||| t98)
  let t100 : BitVec 64 := (t8 &&& (0xff00000000000000#64))
  let t101 : BitVec 64 := (t100 >>> 8)
  let t102 : BitVec 64 := (t99 ||| t101)
  let t103 : BitVec 64 := (t7 <<< 56)
  let t104 : BitVec 64 := (t102 ||| t103)
  let t105 : BitVec 64 := (t27 + t104)
  let t106 : BitVec 64 := (t8 &&& (0xff000000#64))
  let t107 : BitVec 64 := (t7 &&& (0xff00000000#64))
  let t108 : BitVec 64 := (t106 ||| t107)
  let t109 : BitVec 64 := (t108 >>> 24)
  let t110 : BitVec 64 := (t8 &&& (0xff0000#64))
  let t111 : BitVec 64 := (t109 ||| t110)
  let t112 : BitVec 64 := (t8 &&& (0xff0000000000#64))
  let t113 : BitVec 64 := (t112 >>> 16)
  let t114 : BitVec 64 := (t111 ||| t113)
  let t115 : BitVec 64 := (t8 &&& (0xff00#64))
  let t116 : BitVec 64 := (t115 <<< 24)
  let t117 : BitVec 64 := (t114 ||| t116)
  let t118 : BitVec 64 := (t7 &&& (0xff000000000000#64))
  let t119 : BitVec 64 := (t118 >>> 8)
  let t120 : BitVec 64 := (t117 ||| t119)
  let t121 : BitVec 64 := (t8 &&& (0xff#64))
  let t122 : BitVec 64 := (t121 <<< 48)
  let t123 : BitVec 64 := (t120 ||| t122)
  let t124 : BitVec 64 := (t7 &&& (0xff00000000000000#64))
  let t125 : BitVec 64 := (t123 ||| t124)
  let t126 : BitVec 64 := (t28 + t125)
  let t127 : BitVec 64 := (t64 &&& (0xff000000#64))
  let t128 : BitVec 64 := (t85 &&& (0xff00000000#64))
  let t129 : BitVec 64 := (t127 ||| t128)
  let t130 : BitVec 64 := (t129 >>> 24)
  let t131 : BitVec 64 := (t64 &&& (0xff0000000000#64))
  let t132 : BitVec 64 := (t85 &&& (0xff000000000000#64))
  let t133 : BitVec 64 := (t131 ||| t132)
  let t134 : BitVec 64 := (t133 >>> 16)
  let t135 : BitVec 64 := (t130 ||| t134)
  let t136 : BitVec 64 := (t64 &&& (0xff0000#64))
  let t137 : BitVec 64 := (t135 ||| t136)
  let t138 : BitVec 64 := (t64 &&& (0xff00#64))
  let t139 : BitVec 64 := (t138 <<< 32)
  let t140 : BitVec 64 := (t137 ||| t139)
  let t141 : BitVec 64 := (t85 &&& (0xff00000000000000#64))
  let t142 : BitVec 64 := (t141 >>> 8)
  let t143 : BitVec 64 := (t140 ||| t142)
  let t144 : BitVec 64 := (t64 <<< 56)
  let t145 : BitVec 64 := (t143 ||| t144)
  let t146 : BitVec 64 := (t5 + t145)
  let t147 : BitVec 64 := (t85 &&& (0xff000000#64))
  let t148 : BitVec 64 := (t64 &&& (0xff00000000#64))
  let t149 : BitVec 64 := (t147 ||| t148)
  let t150 : BitVec 64 := (t149 >>> 24)
  let t151 : BitVec 64 := (t85 &&& (0xff0000#64))
  let t152 : BitVec 64 := (t150 ||| t151)
  let t153 : BitVec 64 := (t85 &&& (0xff0000000000#64))
  let t154 : BitVec 64 := (t153 >>> 16)
  let t155 : BitVec 64 := (t152 ||| t154)
  let t156 : BitVec 64 := (t85 &&& (0xff00#64))
  let t157 : BitVec 64 := (t156 <<< 24)
  let t158 : BitVec 64 := (t155 ||| t157)
  let t159 : BitVec 64 := (t64 &&& (0xff000000000000#64))
  let t160 : BitVec 64 := (t159 >>> 8)
  let t161 : BitVec 64 := (t158 ||| t160)
  let t162 : BitVec 64 := (t85 &&& (0xff#64))
  let t163 : BitVec 64 := (t162 <<< 48)
  let t164 : BitVec 64 := (t161 ||| t163)
  let t165 : BitVec 64 := (t64 &&& (0xff00000000000000#64))
  let t166 : BitVec 64 := (t164 ||| t165)
  let t167 : BitVec 64 := (t6 + t166)
  let t168 : BitVec 64 := (t105 &&& (0xff000000#64))
  let t169 : BitVec 64 := (t126 &&& (0xff00000000#64))
  let t170 : BitVec 64 := (t168 ||| t169)
  let t171 : BitVec 64 := (t170 >>> 24)
  let t172 : BitVec 64 := (t105 &&& (0xff0000000000#64))
  let t173 : BitVec 64 := (t126 &&& (0xff000000000000#64))
  let t174 : BitVec 64 := (t172 ||| t173)
  let t175 : BitVec 64 := (t174 >>> 16)
  let t176 : BitVec 64 := (t171 ||| t175)
  let t177 : BitVec 64 := (t105 &&& (0xff0000#64))
  let t178 : BitVec 64 := (t176 ||| t177)
  let t179 : BitVec 64 := (t105 &&& (0xff00#64))
  let t180 : BitVec 64 := (t179 <<< 32)
  let t181 : BitVec 64 := (t178 ||| t180)
  let t182 : BitVec 64 := (t126 &&& (0xff00000000000000#64))
  let t183 : BitVec 64 := (t182 >>> 8)
  let t184 : BitVec 64 := (t181 ||| t183)
  let t185 : BitVec 64 := (t105 <<< 56)
  let t186 : BitVec 64 := (t184 ||| t185)
  let t187 : BitVec 64 := (t7 + t186)
  let t188 : BitVec 64 := (t126 &&& (0xff000000#64))
  let t189 : BitVec 64 := (t105 &&& (0xff00000000#64))
  let t190 : BitVec 64 := (t188 ||| t189)
  let t191 : BitVec 64 := (t190 >>> 24)
  let t192 : BitVec 64 := (t126 &&& (0xff0000#64))
  let t193 : BitVec 64 := (t191 ||| t192)
  let t194 : BitVec 64 := (t126 &&& (0xff0000000000#64))
  let t195 : BitVec 64 := (t194 >>> 16)
  let t196 : BitVec 64 := (t193 ||| t195)
  let t197 : BitVec 64 := (t126 &&& (0xff00#64))
  let t198 : BitVec 64 := (t197 <<< 24)
  let t199 : BitVec 64 := (t196 ||| t198)
  let t200 : BitVec 64 := (t105 &&& (0xff000000000000#64))
  let t201 : BitVec 64 := (t200 >>> 8)
  let t202 : BitVec 64 := (t199 ||| t201)
  let t203 : BitVec 64 := (t126 &&& (0xff#64))
  let t204 : BitVec 64 := (t203 <<< 48)
  let t205 : BitVec 64 := (t202 ||| t204)
  let t206 : BitVec 64 := (t105 &&& (0xff00000000000000#64))
  let t207 : BitVec 64 := (t205 ||| t206)
  let t208 : BitVec 64 := (t8 + t207)
  ⟨⟨t64, t85, t105, t126⟩, ⟨t146, t167, t187, t208⟩, ⟨t12, t16, t20, t24⟩, ⟨t32, t36, t40, t44⟩⟩

def updateLanes (s : St) (size : Nat) : St :=
  let t1 : BitVec 64 := ((BitVec.ofNat 64 size) <<< 32)
  let t2 : BitVec 64 := (t1 + (BitVec.ofNat 64 size))
  let t3 : BitVec 64 := (s.v0.l0 + t2)
  let t4 : BitVec 64 := ((BitVec.ofNat 64 size) <<< 32)
  let t5 : BitVec 64 := (t4 + (BitVec.ofNat 64 size))
  let t6 : BitVec 64 := (s.v0.l1 + t5)
  let t7 : BitVec 64 := ((BitVec.ofNat 64 size) <<< 32)
  let t8 : BitVec 64 := (t7 + (BitVec.ofNat 64 size))
  let t9 : BitVec 64 := (s.v0.l2 + t8)
  let t10 : BitVec 64 := ((BitVec.ofNat 64 size) <<< 32)
  let t11 : BitVec 64 := (t10 + (BitVec.ofNat 64 size))
  let t12 : BitVec 64 := (s.v0.l3 + t11)
  let t13 : BitVec 64 := (s.v1.l0 >>> 32)
  let t14 : BitVec 64 := (BitVec.setWidth 64 (((BitVec.setWidth 32 s.v1.l0) <<< (size % 32)) ||| ((BitVec.setWidth 32 s.v1.l0) >>> (((2^64 + 32 - size) % 2^64) % 32))))
  let t15 : BitVec 64 := (BitVec.setWidth 64 (((BitVec.setWidth 32 t13) <<< (size % 32)) ||| ((BitVec.setWidth 32 t13) >>> (((2^64 + 32 - size) % 2^64) % 32))))
  let t16 : BitVec 64 := (t15 <<< 32)
  let t17 : BitVec 64 := (t14 ||| t16)
  let t18 : BitVec 64 := (s.v1.l1 >>> 32)
  let t19 : BitVec 64 := (BitVec.setWidth 64 (((BitVec.setWidth 32 s.v1.l1) <<< (size % 32)) ||| ((BitVec.setWidth 32 s.v1.l1) >>> (((2^64 + 32 - size) % 2^64) % 32))))
  let t20 : BitVec 64 := (BitVec.setWidth 64 (((BitVec.setWidth 32 t18) <<< (size % 32)) ||| ((BitVec.setWidth 32 t18) >>> (((2^64 + 32 - size) % 2^64) % 32))))
  let t21 : BitVec 64 := (t20 <<< 32)
  let t22 : BitVec 64 := (t19 ||| t21)
  let t23 : BitVec 64 := (s.v1.l2 >>> 32)
  let t24 : BitVec 64 := (BitVec.setWidth 64 (((BitVec.setWidth 32 s.v1.l2) <<< (size % 32)) ||| ((BitVec.setWidth 32 s.v1.l2) >>> (((2^64 + 32 - size) % 2^64) % 32))))
  let t25 : BitVec 64 := (BitVec.setWidth 64 (((BitVec.setWidth 32 t23) <<< (size % 32)) ||| ((BitVec.setWidth 32 t23) >>> (((2^64 + 32 - size) % 2^64) % 32))))
  let t26 : BitVec 64 := (t25 <<< 32)
  let t27 : BitVec 64 := (t24 ||| t26)
  let t28 : BitVec 64 := (s.v1.l3 >>> 32)
  let t29 : BitVec 64 := (BitVec.setWidth 64 (((BitVec.setWidth 32 s.v1.l3) <<< (size % 32)) ||| ((BitVec.setWidth 32 s.v1.l3) >>> (((2^64 + 32 - size) % 2^64) % 32))))
  let t30 : BitVec 64 := (BitVec.setWidth 64 (((BitVec.setWidth 32 t28) <<< (size % 32)) ||| ((BitVec.setWidth 32 t28) >>> (((2^64 + 32 - size) % 2^64) % 32))))
  let t31 : BitVec 64 := (t30 <<< 32)
  let t32 : BitVec 64 := (t29 ||| t31)
  ⟨⟨t3, t6, t9, t12⟩, ⟨t17, t22, t27, t32⟩, s.mul0, s.mul1⟩

def newState (key : V4) : St :=
  let t1 : BitVec 64 := ((0xdbe6d5d5fe4cce2f#64) ^^^ key.l0)
  let t2 : BitVec 64 := ((0xa4093822299f31d0#64) ^^^ key.l1)
  let t3 : BitVec 64 := ((0x13198a2e03707344#64) ^^^ key.l2)
  let t4 : BitVec 64 := ((0x243f6a8885a308d3#64) ^^^ key.l3)
  let t5 : BitVec 64 := (BitVec.rotateLeft key.l0 32)
  let t6 : BitVec 64 := ((0x3bd39e10cb0ef593#64) ^^^ t5)
  let t7 : BitVec 64 := (BitVec.rotateLeft key.l1 32)
  let t8 : BitVec 64 := ((0xc0acf169b5f18a8c#64) ^^^ t7)
  let t9 : BitVec 64 := (BitVec.rotateLeft key.l2 32)
  let t10 : BitVec 64 := ((0xbe5466cf34e90c6c#64) ^^^ t9)
  let t11 : BitVec 64 := (BitVec.rotateLeft key.l3 32)
  let t12 : BitVec 64 := ((0x452821e638d01377#64) ^^^ t11)
  ⟨⟨t1, t2, t3, t4⟩, ⟨t6, t8, t10, t12⟩, ⟨(0xdbe6d5d5fe4cce2f#64), (0xa4093822299f31d0#64), (0x13198a2e03707344#64), (0x243f6a8885a308d3#64)⟩, ⟨(0x3bd39e10cb0ef593#64), (0xc0acf169b5f18a8c#64), (0xbe5466cf34e90c6c#64), (0x452821e638d01377#64)⟩⟩

def out64 (s : St) : BitVec 64 :=
  let t1 : BitVec 64 := (s.v0.l0 + s.v1.l0)
  let t2 : BitVec 64 := (t1 + s.mul0.l0)
  let t3 : BitVec 64 := (t2 + s.mul1.l0)
  t3
def out64Rounds : Nat := 4

def out128 (s : St) : BitVec 64 × BitVec 64 :=
  let t1 : BitVec 64 := (s.v0.l0 + s.mul0.l0)
  let t2 : BitVec 64 := (t1 + s.v1.l2)
  let t3 : BitVec 64 := (t2 + s.mul1.l2)
  let t4 : BitVec 64 := (s.v0.l1 + s.mul0.l1)
  let t5 : BitVec 64 := (t4 + s.v1.l3)
  let t6 : BitVec 64 := (t5 + s.mul1.l3)
  (t3, t6)
def out128Rounds : Nat := 6

def out256 (s : St) : BitVec 64 × BitVec 64 × BitVec 64 × BitVec 64 :=
  let t1 : BitVec 64 := (s.v1.l1 + s.mul1.l1)
  let t2 : BitVec 64 := (s.v1.l0 + s.mul1.l0)
  let t3 : BitVec 64 := (s.v0.l1 + s.mul0.l1)
  let t4 : BitVec 64 := (s.v0.l0 + s.mul0.l0)
  let t5 : BitVec 64 := (t1 &&& (0x3fffffffffffffff#64))
  let t6 : BitVec 64 := (t5 <<< 1)
  let t7 : BitVec 64 := (t2 >>> 63)
  let t8 : BitVec 64 := (t6 ||| t7)
  let t9 : BitVec 64 := (t3 ^^^ t8)
  let t10 : BitVec 64 := (t5 <<< 2)
  let t11 : BitVec 64 := (t2 >>> 62)
  let t12 : BitVec 64 := (t10 ||| t11)
  let t13 : BitVec 64 := (t9 ^^^ t12)
  let t14 : BitVec 64 := (t2 <<< 1)
  let t15 : BitVec 64 := (t4 ^^^ t14)
  let t16 : BitVec 64 := (t2 <<< 2)
  let t17 : BitVec 64 := (t15 ^^^ t16)
  let t18 : BitVec 64 := (s.v1.l3 + s.mul1.l3)
  let t19 : BitVec 64 := (s.v1.l2 + s.mul1.l2)
  let t20 : BitVec 64 := (s.v0.l3 + s.mul0.l3)
  let t21 : BitVec 64 := (s.v0.l2 + s.mul0.l2)
  let t22 : BitVec 64 := (t18 &&& (0x3fffffffffffffff#64))
  let t23 : BitVec 64 := (t22 <<< 1)
  let t24 : BitVec 64 := (t19 >>> 63)
  let t25 : BitVec 64 := (t23 ||| t24)
  let t26 : BitVec 64 := (t20 ^^^ t25)
  let t27 : BitVec 64 := (t22 <<< 2)
  let t28 : BitVec 64 := (t19 >>> 62)
  let t29 : BitVec 64 := (t27 ||| t28)
  let t30 : BitVec 64 := (t26 ^^^ t29)
  let t31 : BitVec 64 := (t19 <<< 1)
  let t32 : BitVec 64 := (t21 ^^^ t31)
  let t33 : BitVec 64 := (t19 <<< 2)
  let t34 : BitVec 64 := (t32 ^^^ t33)
  (t17, t13, t34, t30)
def out256Rounds : Nat := 10

def dataToLanes (b0 b1 b2 b3 b4 b5 b6 b7 b8 b9 b10 b11 b12 b13 b14 b15 b16 b17 b18 b19 b20 b21 b22 b23 b24 b25 b26 b27 b28 b29 b30 b31 : BitVec 8) : V4 :=
  let t1 : BitVec 64 := (HH.le64 [b0, b1, b2, b3, b4, b5, b6, b7])
  let t2 : BitVec 64 := (HH.le64 [b8, b9, b10, b11, b12, b13, b14, b15])
  let t3 : BitVec 64 := (HH.le64 [b16, b17, b18, b19, b20, b21, b22, b23])
  let t4 : BitVec 64 := (HH.le64 [b24, b25, b26, b27, b28, b29, b30, b31])
  ⟨t1, t2, t3, t4⟩

def remainder0 : List (BitVec 8) :=
  [(0#8), (0#8), (0#8), (0#8), (0#8), (0#8), (0#8), (0#8), (0#8), (0#8), (0#8), (0#8), (0#8), (0#8), (0#8), (0#8), (0#8), (0#8), (0#8), (0#8), (0#8), (0#8), (0#8), (0#8), (0#8), (0#8), (0#8), (0#8), (0#8), (0#8), (0#8), (0#8)]
def remainder1 (b0 : BitVec 8) : List (BitVec 8) :=
  [(0#8), (0#8), (0#8), (0#8), (0#8), (0#8), (0#8), (0#8), (0#8), (0#8), (0#8), (0#8), (0#8), (0#8), (0#8), (0#8), b0, b0, b0, (0#8), (0#8), (0#8), (0#8), (0#8), (0#8), (0#8), (0#8), (0#8), (0#8), (0#8), (0#8), (0#8)]
def remainder2 (b0 b1 : BitVec 8) : List (BitVec 8) :=
  [(0#8), (0#8), (0#8), (0#8), (0#8), (0#8), (0#8), (0#8), (0#8), (0#8), (0#8), (0#8), (0#8), (0#8), (0#8), (0#8), b0, b1, b1, (0#8), (0#8), (0#8), (0#8), (0#8), (0#8), (0#8), (0#8), (0#8), (0#8), (0#8), (0#8), (0#8)]
def remainder3 (b0 b1 b2 : BitVec 8) : List (BitVec 8) :=
  [(0#8), (0#8), (0#8), (0#8), (0#8), (0#8), (0#8), (0#8), (0#8), (0#8), (0#8), (0#8), (0#8), (0#8), (0#8), (0#8), b0, b1, b2, (0#8), (0#8), (0#8), (0#8), (0#8), (0#8), (0#8), (0#8), (0#8), (0#8), (0#8), (0#8), (0#8)]
def remainder4 (b0 b1 b2 b3 : BitVec 8) : List (BitVec 8) :=
  [b0, b1, b2, b3, (0#8), (0#8), (0#8), (0#8), (0#8), (0#8), (0#8), (0#8), (0#8), (0#8), (0#8), (0#8), (0#8), (0#8), (0#8), (0#8), (0#8), (0#8), (0#8), (0#8), (0#8), (0#8), (0#8), (0#8), (0#8), (0#8), (0#8), (0#8)]
def remainder5 (b0 b1 b2 b3 b4 : BitVec 8) : List (BitVec 8) :=
  [b0, b1, b2, b3, (0#8), (0#8), (0#8), (0#8), (0#8), (0#8), (0#8), (0#8), (0#8), (0#8), (0#8), (0#8), b4, b4, b4, (0#8), (0#8), (0#8), (0#8), (0#8), (0#8), (0#8), (0#8), (0#8), (0#8), (0#8), (0#8), (0#8)]
def remainder6 (b0 b1 b2 b3 b4 b5 : BitVec 8) : List (BitVec 8) :=
  [b0, b1, b2, b3, (0#8), (0#8), (0#8), (0#8), (0#8), (0#8), (0#8), (0#8), (0#8), (0#8), (0#8), (0#8), b4, b5, b5, (0#8), (0#8), (0#8), (0#8), (0#8), (0#8), (0#8), (0#8), (0#8), (0#8), (0#8), (0#8), (0#8)]
def remainder7 (b0 b1 b2 b3 b4 b5 b6 : BitVec 8) : List (BitVec 8) :=
  [b0, b1, b2, b3, (0#8), (0#8), (0#8), (0#8), (0#8), (0#8), (0#8), (0#8), (0#8), (0#8), (0#8), (0#8), b4, b5, b6, (0#8), (0#8), (0#8), (0#8), (0#8), (0#8), (0#8), (0#8), (0#8), (0#8), (0#8), (0#8), (0#8)]
def remainder8 (b0 b1 b2 b3 b4 b5 b6 b7 : BitVec 8) : List (BitVec 8) :=
  [b0, b1, b2, b3, b4, b5, b6, b7, (0#8), (0#8), (0#8), (0#8), (0#8), (0#8), (0#8), (0#8), (0#8), (0#8), (0#8), (0#8), (0#8), (0#8), (0#8), (0#8), (0#8), (0#8), (0#8), (0#8), (0#8), (0#8), (0#8), (0#8)]
def remainder9 (b0 b1 b2 b3 b4 b5 b6 b7 b8 : BitVec 8) : List (BitVec 8) :=
  [b0, b1, b2, b3, b4, b5, b6, b7, (0#8), (0#8), (0#8), (0#8), (0#8), (0#8), (0#8), (0#8), b8, b8, b8, (0#8), (0#8), (0#8), (0#8), (0#8), (0#8), (0#8), (0#8), (0#8), (0#8), (0#8), (0#8), (0#8)]
def remainder10 (b0 b1 b2 b3 b4 b5 b6 b7 b8 b9 : BitVec 8) : List (BitVec 8) :=
  [b0, b1, b2, b3, b4, b5, b6, b7, (0#8), (0#8), (0#8), (0#8), (0#8), (0#8), (0#8), (0#8), b8, b9, b9, (0#8), (0#8), (0#8), (0#8), (0#8), (0#8), (0#8), (0#8), (0#8), (0#8), (0#8), (0#8), (0#8)]
def remainder11 (b0 b1 b2 b3 b4 b5 b6 b7 b8 b9 b10 : BitVec 8) : List (BitVec 8) :=
  [b0, b1, b2, b3, b4, b5, b6, b7, (0#8), (0#8), (0#8), (0#8), (0#8), (0#8), (0#8), (0#8), b8, b9, b10, (0#8), (0#8), (0#8), (0#8), (0#8), (0#8), (0#8), (0#8), (0#8), (0#8), (0#8), (0#8), (0#8)]
def remainder12 (b0 b1 b2 b3 b4 b5 b6 b7 b8 b9 b10 b11 : BitVec 8) : List (BitVec 8) :=
  [b0, b1, b2, b3, b4, b5, b6, b7, b8, b9, b10, b11, (0#8), (0#8), (0#8), (0#8), (0#8), (0#8), (0#8), (0#8), (0#8), (0#8), (0#8), (0#8), (0#8), (0#8), (0#8), (0#8), (0#8), (0#8), (0#8), (0#8)]
def remainder13 (b0 b1 b2 b3 b4 b5 b6 b7 b8 b9 b10 b11 b12 : BitVec 8) : List (BitVec 8) :=
  [b0, b1, b2, b3, b4, b5, b6, b7, b8, b9, b10, b11, (0#8), (0#8), (0#8), (0#8), b12, b12, b12, (0#8), (0#8), (0#8), (0#8), (0#8), (0#8), (0#8), (0#8), (0#8), (0#8), (0#8), (0#8), (0#8)]
def remainder14 (b0 b1 b2 b3 b4 b5 b6 b7 b8 b9 b10 b11 b12 b13 : BitVec 8) : List (BitVec 8) :=
  [b0, b1, b2, b3, b4, b5, b6, b7, b8, b9, b10, b11, (0#8), (0#8), (0#8), (0#8), b12, b13, b13, (0#8), (0#8), (0#8), (0#8), (0#8), (0#8), (0#8), (0#8), (0#8), (0#8), (0#8), (0#8), (0#8)]
def remainder15 (b0 b1 b2 b3 b4 b5 b6 b7 b8 b9 b10 b11 b12 b13 b14 : BitVec 8) : List (BitVec 8) :=
  [b0, b1, b2, b3, b4, b5, b6, b7, b8, b9, b10, b11, (0#8), (0#8), (0#8), (0#8), b12, b13, b14, (0#8), (0#8), (0#8), (0#8), (0#8), (0#8), (0#8), (0#8), (0#8), (0#8), (0#8), (0#8), (0#8)]
def remainder16 (b0 b1 b2 b3 b4 b5 b6 b7 b8 b9 b10 b11 b12 b13 b14 b15 : BitVec 8) : List (BitVec 8) :=
  [b0, b1, b2, b3, b4, b5, b6, b7, b8, b9, b10, b11, b12, b13, b14, b15, (0#8), (0#8), (0#8), (0#8), (0#8), (0#8), (0#8), (0#8), (0#8), (0#8), (0#8), (0#8), b12, b13, b14, b15]
def remainder17 (b0 b1 b2 b3 b4 b5 b6 b7 b8 b9 b10 b11 b12 b13 b14 b15 b16 : BitVec 8) : List (BitVec 8) :=
  [b0, b1, b2, b3, b4, b5, b6, b7, b8, b9, b10, b11, b12, b13, b14, b15, (0#8), (0#8), (0#8), (0#8), (0#8), (0#8), (0#8), (0#8), (0#8), (0#8), (0#8), (0#8), b13, b14, b15, b16]
def remainder18 (b0 b1 b2 b3 b4 b5 b6 b7 b8 b9 b10 b11 b12 b13 b14 b15 b16 b17 : BitVec 8) : List (BitVec 8) :=
  [b0, b1, b2, b3, b4, b5, b6, b7, b8, b9, b10, b11, b12, b13, b14, b15, (0#8), (0#8), (0#8), (0#8), (0#8), (0#8), (0#8), (0#8), (0#8), (0#8), (0#8), (0#8), b14, b15, b16, b17]
def remainder19 (b0 b1 b2 b3 b4 b5 b6 b7 b8 b9 b10 b11 b12 b13 b14 b15 b16 b17 b18 : BitVec 8) : List (BitVec 8) :=
  [b0, b1, b2, b3, b4, b5, b6, b7, b8, b9, b10, b11, b12, b13, b14, b15, (0#8), (0#8), (0#8), (0#8), (0#8), (0#8), (0#8), (0#8), (0#8), (0#8), (0#8), (0#8), b15, b16, b17, b18]
def remainder20 (b0 b1 b2 b3 b4 b5 b6 b7 b8 b9 b10 b11 b12 b13 b14 b15 b16 b17 b18 b19 : BitVec 8) : List (BitVec 8) :=
  [b0, b1, b2, b3, b4, b5, b6, b7, b8, b9, b10, b11, b12, b13, b14, b15, b16, b17, b18, b19, (0#8), (0#8), (0#8), (0#8), (0#8), (0#8), (0#8), (0#8), b16, b17, b18, b19]
def remainder21 (b0 b1 b2 b3 b4 b5 b6 b7 b8 b9 b10 b11 b12 b13 b14 b15 b16 b17 b18 b19 b20 : BitVec 8) : List (BitVec 8) :=
  [b0, b1, b2, b3, b4, b5, b6, b7, b8, b9, b10, b11, b12, b13, b14, b15, b16, b17, b18, b19, (0#8), (0#8), (0#8), (0#8), (0#8), (0#8), (0#8), (0#8), b17, b18, b19, b20]
def remainder22 (b0 b1 b2 b3 b4 b5 b6 b7 b8 b9 b10 b11 b12 b13 b14 b15 b16 b17 b18 b19 b20 b21 : BitVec 8) : List (BitVec 8) :=
  [b0, b1, b2, b3, b4, b5, b6, b7, b8, b9, b10, b11, b12, b13, b14, b15, b16, b17, b18, b19, (0#8), (0#8), (0#8), (0#8), (0#8), (0#8), (0#8), (0#8), b18, b19, b20, b21]
def remainder23 (b0 b1 b2 b3 b4 b5 b6 b7 b8 b9 b10 b11 b12 b13 b14 b15 b16 b17 b18 b19 b20 b21 b22 : BitVec 8) : List (BitVec 8) :=
  [b0, b1, b2, b3, b4, b5, b6, b7, b8, b9, b10, b11, b12, b13, b14, b15, b16, b17, b18, b19, (0#8), (0#8), (0#8), (0#8), (0#8), (0#8), (0#8), (0#8), b19, b20, b21, b22]
def remainder24 (b0 b1 b2 b3 b4 b5 b6 b7 b8 b9 b10 b11 b12 b13 b14 b15 b16 b17 b18 b19 b20 b21 b22 b23 : BitVec 8) : List (BitVec 8) :=
  [b0, b1, b2, b3, b4, b5, b6, b7, b8, b9, b10, b11, b12, b13, b14, b15, b16, b17, b18, b19, b20, b21, b22, b23, (0#8), (0#8), (0#8), (0#8), b20, b21, b22, b23]
def remainder25 (b0 b1 b2 b3 b4 b5 b6 b7 b8 b9 b10 b11 b12 b13 b14 b15 b16 b17 b18 b19 b20 b21 b22 b23 b24 : BitVec 8) : List (BitVec 8) :=
  [b0, b1, b2, b3, b4, b5, b6, b7, b8, b9, b10, b11, b12, b13, b14, b15, b16, b17, b18, b19, b20, b21, b22, b23, (0#8), (0#8), (0#8), (0#8), b21, b22, b23, b24]
def remainder26 (b0 b1 b2 b3 b4 b5 b6 b7 b8 b9 b10 b11 b12 b13 b14 b15 b16 b17 b18 b19 b20 b21 b22 b23 b24 b25 : BitVec 8) : List (BitVec 8) :=
  [b0, b1, b2, b3, b4, b5, b6, b7, b8, b9, b10, b11, b12, b13, b14, b15, b16, b17, b18, b19, b20, b21, b22, b23, (0#8), (0#8), (0#8), (0#8), b22, b23, b24, b25]
def remainder27 (b0 b1 b2 b3 b4 b5 b6 b7 b8 b9 b10 b11 b12 b13 b14 b15 b16 b17 b18 b19 b20 b21 b22 b23 b24 b25 b26 : BitVec 8) : List (BitVec 8) :=
  [b0, b1, b2, b3, b4, b5, b6, b7, b8, b9, b10, b11, b12, b13, b14, b15, b16, b17, b18, b19, b20, b21, b22, b23, (0#8), (0#8), (0#8), (0#8), b23, b24, b25, b26]
def remainder28 (b0 b1 b2 b3 b4 b5 b6 b7 b8 b9 b10 b11 b12 b13 b14 b15 b16 b17 b18 b19 b20 b21 b22 b23 b24 b25 b26 b27 : BitVec 8) : List (BitVec 8) :=
  [b0, b1, b2, b3, b4, b5, b6, b7, b8, b9, b10, b11, b12, b13, b14, b15, b16, b17, b18, b19, b20, b21, b22, b23, b24, b25, b26, b27, b24, b25, b26, b27]
def remainder29 (b0 b1 b2 b3 b4 b5 b6 b7 b8 b9 b10 b11 b12 b13 b14 b15 b16 b17 b18 b19 b20 b21 b22 b23 b24 b25 b26 b27 b28 : BitVec 8) : List (BitVec 8) :=
  [b0, b1, b2, b3, b4, b5, b6, b7, b8, b9, b10, b11, b12, b13, b14, b15, b16, b17, b18, b19, b20, b21, b22, b23, b24, b25, b26, b27, b25, b26, b27, b28]
def remainder30 (b0 b1 b2 b3 b4 b5 b6 b7 b8 b9 b10 b11 b12 b13 b14 b15 b16 b17 b18 b19 b20 b21 b22 b23 b24 b25 b26 b27 b28 b29 : BitVec 8) : List (BitVec 8) :=
  [b0, b1, b2, b3, b4, b5, b6, b7, b8, b9, b10, b11, b12, b13, b14, b15, b16, b17, b18, b19, b20, b21, b22, b23, b24, b25, b26, b27, b26, b27, b28, b29]
def remainder31 (b0 b1 b2 b3 b4 b5 b6 b7 b8 b9 b10 b11 b12 b13 b14 b15 b16 b17 b18 b19 b20 b21 b22 b23 b24 b25 b26 b27 b28 b29 b30 : BitVec 8) : List (BitVec 8) :=
  [b0, b1, b2, b3, b4, b5, b6, b7, b8, b9, b10, b11, b12, b13, b14, b15, b16, b17, b18, b19, b20, b21, b22, b23, b24, b25, b26, b27, b27, b28, b29, b30]
def remainder32 (b0 b1 b2 b3 b4 b5 b6 b7 b8 b9 b10 b11 b12 b13 b14 b15 b16 b17 b18 b19 b20 b21 b22 b23 b24 b25 b26 b27 b28 b29 b30 b31 : BitVec 8) : List (BitVec 8) :=
  [b0, b1, b2, b3, b4, b5, b6, b7, b8, b9, b10, b11, b12, b13, b14, b15, b16, b17, b18, b19, b20, b21, b22, b23, b24, b25, b26, b27, b28, b29, b30, b31]

def updateRemainder1 (s : St) (b0 b1 b2 b3 b4 b5 b6 b7 b8 b9 b10 b11 b12 b13 b14 b15 b16 b17 b18 b19 b20 b21 b22 b23 b24 b25 b26 b27 b28 b29 b30 b31 : BitVec 8) : St :=
  let s1 : St := updateLanes s 1
  let v2 : V4 := dataToLanes (0#8) (0#8) (0#8) (0#8) (0#8) (0#8) (0#8) (0#8) (0#8) (0#8) (0#8) (0#8) (0#8) (0#8) (0#8) (0#8) b0 b0 b0 (0#8) (0#8) (0#8) (0#8) (0#8) (0#8) (0#8) (0#8) (0#8) (0#8) (0#8) (0#8) (0#8)
  let s3 : St := update s1 v2
  s3
def updateRemainder2 (s : St) (b0 b1 b2 b3 b4 b5 b6 b7 b8 b9 b10 b11 b12 b13 b14 b15 b16 b17 b18 b19 b20 b21 b22 b23 b24 b25 b26 b27 b28 b29 b30 b31 : BitVec 8) : St :=
  let s1 : St := updateLanes s 2
  let v2 : V4 := dataToLanes (0#8) (0#8) (0#8) (0#8) (0#8) (0#8) (0#8) (0#8) (0#8) (0#8) (0#8) (0#8) (0#8) (0#8) (0#8) (0#8) b0 b1 b1 (0#8) (0#8) (0#8) (0#8) (0#8) (0#8) (0#8) (0#8) (0#8) (0#8) (0#8) (0#8) (0#8)
  let s3 : St := update s1 v2
  s3
def updateRemainder3 (s : St) (b0 b1 b2 b3 b4 b5 b6 b7 b8 b9 b10 b11 b12 b13 b14 b15 b16 b17 b18 b19 b20 b21 b22 b23 b24 b25 b26 b27 b28 b29 b30 b31 : BitVec 8) : St :=
  let s1 : St := updateLanes s 3
  let v2 : V4 := dataToLanes (0#8) (0#8) (0#8) (0#8) (0#8) (0#8) (0#8) (0#8) (0#8) (0#8) (0#8) (0#8) (0#8) (0#8) (0#8) (0#8) b0 b1 b2 (0#8) (0#8) (0#8) (0#8) (0#8) (0#8) (0#8) (0#8) (0#8) (0#8) (0#8) (0#8) (0#8)
  let s3 : St := update s1 v2
  s3
def updateRemainder4 (s : St) (b0 b1 b2 b3 b4 b5 b6 b7 b8 b9 b10 b11 b12 b13 b14 b15 b16 b17 b18 b19 b20 b21 b22 b23 b24 b25 b26 b27 b28 b29 b30 b31 : BitVec 8) : St :=
  let s1 : St := updateLanes s 4
  let v2 : V4 := dataToLanes b0 b1 b2 b3 (0#8) (0#8) (0#8) (0#8) (0#8) (0#8) (0#8) (0#8) (0#8) (0#8) (0#8) (0#8) (0#8) (0#8) (0#8) (0#8) (0#8) (0#8) (0#8) (0#8) (0#8) (0#8) (0#8) (0#8) (0#8) (0#8) (0#8) (0#8)
  let s3 : St := update s1 v2
  s3
def updateRemainder5 (s : St) (b0 b1 b2 b3 b4 b5 b6 b7 b8 b9 b10 b11 b12 b13 b14 b15 b16 b17 b18 b19 b20 b21 b22 b23 b24 b25 b26 b27 b28 b29 b30 b31 : BitVec 8) : St :=
  let s1 : St := updateLanes s 5
  let v2 : V4 := dataToLanes b0 b1 b2 b3 (0#8) (0#8) (0#8) (0#8) (0#8) (0#8) (0#8) (0#8) (0#8) (0#8) (0#8) (0#8) b4 b4 b4 (0#8) (0#8) (0#8) (0#8) (0#8) (0#8) (0#8) (0#8) (0#8) (0#8) (0#8) (0#8) (0#8)
  let s3 : St := update s1 v2
  s3
def updateRemainder6 (s : St) (b0 b1 b2 b3 b4 b5 b6 b7 b8 b9 b10 b11 b12 b13 b14 b15 b16 b17 b18 b19 b20 b21 b22 b23 b24 b25 b26 b27 b28 b29 b30 b31 : BitVec 8) : St :=
  let s1 : St := updateLanes s 6
  let v2 : V4 := dataToLanes b0 b1 b2 b3 (0#8) (0#8) (0#8) (0#8) (0#8) (0#8) (0#8) (0#8) (0#8) (0#8) (0#8) (0#8) b4 b5 b5 (0#8) (0#8) (0#8) (0#8) (0#8) (0#8) (0#8) (0#8) (0#8) (0#8) (0#8) (0#8) (0#8)
  let s3 : St := update s1 v2
  s3
def updateRemainder7 (s : St) (b0 b1 b2 b3 b4 b5 b6 b7 b8 b9 b10 b11 b12 b13 b14 b15 b16 b17 b18 b19 b20 b21 b22 b23 b24 b25 b26 b27 b28 b29 b30 b31 : BitVec 8) : St :=
  let s1 : St := updateLanes s 7
  let v2 : V4 := dataToLanes b0 b1 b2 b3 (0#8) (0#8) (0#8) (0#8) (0#8) (0#8) (0#8) (0#8) (0#8) (0#8) (0#8) (0#8) b4 b5 b6 (0#8) (0#8) (0#8) (0#8) (0#8) (0#8) (0#8) (0#8) (0#8) (0#8) (0#8) (0#8) (0#8)
  let s3 : St := update s1 v2
  s3
def updateRemainder8 (s : St) (b0 b1 b2 b3 b4 b5 b6 b7 b8 b9 b10 b11 b12 b13 b14 b15 b16 b17 b18 b19 b20 b21 b22 b23 b24 b25 b26 b27 b28 b29 b30 b31 : BitVec 8) : St :=
  let s1 : St := updateLanes s 8
  let v2 : V4 := dataToLanes b0 b1 b2 b3 b4 b5 b6 b7 (0#8) (0#8) (0#8) (0#8) (0#8) (0#8) (0#8) (0#8) (0#8) (0#8) (0#8) (0#8) (0#8) (0#8) (0#8) (0#8) (0#8) (0#8) (0#8) (0#8) (0#8) (0#8) (0#8) (0#8)
  let s3 : St := update s1 v2
  s3
def updateRemainder9 (s : St) (b0 b1 b2 b3 b4 b5 b6 b7 b8 b9 b10 b11 b12 b13 b14 b15 b16 b17 b18 b19 b20 b21 b22 b23 b24 b25 b26 b27 b28 b29 b30 b31 : BitVec 8) : St :=
  let s1 : St := updateLanes s 9
  let v2 : V4 := dataToLanes b0 b1 b2 b3 b4 b5 b6 b7 (0#8) (0#8) (0#8) (0#8) (0#8) (0#8) (0#8) (0#8) b8 b8 b8 (0#8) (0#8) (0#8) (0#8) (0#8) (0#8) (0#8) (0#8) (0#8) (0#8) (0#8) (0#8) (0#8)
  let s3 : St := update s1 v2
  s3
def updateRemainder10 (s : St) (b0 b1 b2 b3 b4 b5 b6 b7 b8 b9 b10 b11 b12 b13 b14 b15 b16 b17 b18 b19 b20 b21 b22 b23 b24 b25 b26 b27 b28 b29 b30 b31 : BitVec 8) : St :=
  let s1 : St := updateLanes s 10
  let v2 : V4 := dataToLanes b0 b1 b2 b3 b4 b5 b6 b7 (0#8) (0#8) (0#8) (0#8) (0#8) (0#8) (0#8) (0#8) b8 b9 b9 (0#8) (0#8) (0#8) (0#8) (0#8) (0#8) (0#8) (0#8) (0#8) (0#8) (0#8) (0#8) (0#8)
  let s3 : St := update s1 v2
  s3
def updateRemainder11 (s : St) (b0 b1 b2 b3 b4 b5 b6 b7 b8 b9 b10 b11 b12 b13 b14 b15 b16 b17 b18 b19 b20 b21 b22 b23 b24 b25 b26 b27 b28 b29 b30 b31 : BitVec 8) : St :=
  let s1 : St := updateLanes s 11
  let v2 : V4 := dataToLanes b0 b1 b2 b3 b4 b5 b6 b7 (0#8) (0#8) (0#8) (0#8) (0#8) (0#8) (0#8) (0#8) b8 b9 b10 (0#8) (0#8) (0#8) (0#8) (0#8) (0#8) (0#8) (0#8) (0#8) (0#8) (0#8) (0#8) (0#8)
  let s3 : St := update s1 v2
  s3
def updateRemainder12 (s : St) (b0 b1 b2 b3 b4 b5 b6 b7 b8 b9 b10 b11 b12 b13 b14 b15 b16 b17 b18 b19 b20 b21 b22 b23 b24 b25 b26 b27 b28 b29 b30 b31 : BitVec 8) : St :=
  let s1 : St := updateLanes s 12
  let v2 : V4 := dataToLanes b0 b1 b2 b3 b4 b5 b6 b7 b8 b9 b10 b11 (0#8) (0#8) (0#8) (0#8) (0#8) (0#8) (0#8) (0#8) (0#8) (0#8) (0#8) (0#8) (0#8) (0#8) (0#8) (0#8) (0#8) (0#8) (0#8) (0#8)
  let s3 : St := update s1 v2
  s3
def updateRemainder13 (s : St) (b0 b1 b2 b3 b4 b5 b6 b7 b8 b9 b10 b11 b12 b13 b14 b15 b16 b17 b18 b19 b20 b21 b22 b23 b24 b25 b26 b27 b28 b29 b30 b31 : BitVec 8) : St :=
  let s1 : St := updateLanes s 13
  let v2 : V4 := dataToLanes b0 b1 b2 b3 b4 b5 b6 b7 b8 b9 b10 b11 (0#8) (0#8) (0#8) (0#8) b12 b12 b12 (0#8) (0#8) (0#8) (0#8) (0#8) (0#8) (0#8) (0#8) (0#8) (0#8) (0#8) (0#8) (0#8)
  let s3 : St := update s1 v2
  s3
def updateRemainder14 (s : St) (b0 b1 b2 b3 b4 b5 b6 b7 b8 b9 b10 b11 b12 b13 b14 b15 b16 b17 b18 b19 b20 b21 b22 b23 b24 b25 b26 b27 b28 b29 b30 b31 : BitVec 8) : St :=
  let s1 : St := updateLanes s 14
  let v2 : V4 := dataToLanes b0 b1 b2 b3 b4 b5 b6 b7 b8 b9 b10 b11 (0#8) (0#8) (0#8) (0#8) b12 b13 b13 (0#8) (0#8) (0#8) (0#8) (0#8) (0#8) (0#8) (0#8) (0#8) (0#8) (0#8) (0#8) (0#8)
  let s3 : St := update s1 v2
  s3
def updateRemainder15 (s : St) (b0 b1 b2 b3 b4 b5 b6 b7 b8 b9 b10 b11 b12 b13 b14 b15 b16 b17 b18 b19 b20 b21 b22 b23 b24 b25 b26 b27 b28 b29 b30 b31 : BitVec 8) : St :=
  let s1 : St := updateLanes s 15
  let v2 : V4 := dataToLanes b0 b1 b2 b3 b4 b5 b6 b7 b8 b9 b10 b11 (0#8) (0#8) (0#8) (0#8) b12 b13 b14 (0#8) (0#8) (0#8) (0#8) (0#8) (0#8) (0#8) (0#8) (0#8) (0#8) (0#8) (0#8) (0#8)
  let s3 : St := update s1 v2
  s3
def updateRemainder16 (s : St) (b0 b1 b2 b3 b4 b5 b6 b7 b8 b9 b10 b11 b12 b13 b14 b15 b16 b17 b18 b19 b20 b21 b22 b23 b24 b25 b26 b27 b28 b29 b30 b31 : BitVec 8) : St :=
  let s1 : St := updateLanes s 16
  let v2 : V4 := dataToLanes b0 b1 b2 b3 b4 b5 b6 b7 b8 b9 b10 b11 b12 b13 b14 b15 (0#8) (0#8) (0#8) (0#8) (0#8) (0#8) (0#8) (0#8) (0#8) (0#8) (0#8) (0#8) b12 b13 b14 b15
  let s3 : St := update s1 v2
  s3
def updateRemainder17 (s : St) (b0 b1 b2 b3 b4 b5 b6 b7 b8 b9 b10 b11 b12 b13 b14 b15 b16 b17 b18 b19 b20 b21 b22 b23 b24 b25 b26 b27 b28 b29 b30 b31 : BitVec 8) : St :=
  let s1 : St := updateLanes s 17
  let v2 : V4 := dataToLanes b0 b1 b2 b3 b4 b5 b6 b7 b8 b9 b10 b11 b12 b13 b14 b15 (0#8) (0#8) (0#8) (0#8) (0#8) (0#8) (0#8) (0#8) (0#8) (0#8) (0#8) (0#8) b13 b14 b15 b16
  let s3 : St := update s1 v2
  s3
def updateRemainder18 (s : St) (b0 b1 b2 b3 b4 b5 b6 b7 b8 b9 b10 b11 b12 b13 b14 b15 b16 b17 b18 b19 b20 b21 b22 b23 b24 b25 b26 b27 b28 b29 b30 b31 : BitVec 8) : St :=
  let s1 : St := updateLanes s 18
  let v2 : V4 := dataToLanes b0 b1 b2 b3 b4 b5 b6 b7 b8 b9 b10 b11 b12 b13 b14 b15 (0#8) (0#8) (0#8) (0#8) (0#8) (0#8) (0#8) (0#8) (0#8) (0#8) (0#8) (0#8) b14 b15 b16 b17
  let s3 : St := update s1 v2
  s3
def updateRemainder19 (s : St) (b0 b1 b2 b3 b4 b5 b6 b7 b8 b9 b10 b11 b12 b13 b14 b15 b16 b17 b18 b19 b20 b21 b22 b23 b24 b25 b26 b27 b28 b29 b30 b31 : BitVec 8) : St :=
  let s1 : St := updateLanes s 19
  let v2 : V4 := dataToLanes b0 b1 b2 b3 b4 b5 b6 b7 b8 b9 b10 b11 b12 b13 b14 b15 (0#8) (0#8) (0#8) (0#8) (0#8) (0#8) (0#8) (0#8) (0#8) (0#8) (0#8) (0#8) b15 b16 b17 b18
  let s3 : St := update s1 v2
  s3
def updateRemainder20 (s : St) (b0 b1 b2 b3 b4 b5 b6 b7 b8 b9 b10 b11 b12 b13 b14 b15 b16 b17 b18 b19 b20 b21 b22 b23 b24 b25 b26 b27 b28 b29 b30 b31 : BitVec 8) : St :=
  let s1 : St := updateLanes s 20
  let v2 : V4 := dataToLanes b0 b1 b2 b3 b4 b5 b6 b7 b8 b9 b10 b11 b12 b13 b14 b15 b16 b17 b18 b19 (0#8) (0#8) (0#8) (0#8) (0#8) (0#8) (0#8) (0#8) b16 b17 b18 b19
  let s3 : St := update s1 v2
  s3
def updateRemainder21 (s : St) (b0 b1 b2 b3 b4 b5 b6 b7 b8 b9 b10 b11 b12 b13 b14 b15 b16 b17 b18 b19 b20 b21 b22 b23 b24 b25 b26 b27 b28 b29 b30 b31 : BitVec 8) : St :=
  let s1 : St := updateLanes s 21
  let v2 : V4 := dataToLanes b0 b1 b2 b3 b4 b5 b6 b7 b8 b9 b10 b11 b12 b13 b14 b15 b16 b17 b18 b19 (0#8) (0#8) (0#8) (0#8) (0#8) (0#8) (0#8) (0#8) b17 b18 b19 b20
  let s3 : St := update s1 v2
  s3
def updateRemainder22 (s : St) (b0 b1 b2 b3 b4 b5 b6 b7 b8 b9 b10 b11 b12 b13 b14 b15 b16 b17 b18 b19 b20 b21 b22 b23 b24 b25 b26 b27 b28 b29 b30 b31 : BitVec 8) : St :=
  let s1 : St := updateLanes s 22
  let v2 : V4 := dataToLanes b0 b1 b2 b3 b4 b5 b6 b7 b8 b9 b10 b11 b12 b13 b14 b15 b16 b17 b18 b19 (0#8) (0#8) (0#8) (0#8) (0#8) (0#8) (0#8) (0#8) b18 b19 b20 b21
  let s3 : St := update s1 v2
  s3
def updateRemainder23 (s : St) (b0 b1 b2 b3 b4 b5 b6 b7 b8 b9 b10 b11 b12 b13 b14 b15 b16 b17 b18 b19 b20 b21 b22 b23 b24 b25 b26 b27 b28 b29 b30 b31 : BitVec 8) : St :=
  let s1 : St := updateLanes s 23
  let v2 : V4 := dataToLanes b0 b1 b2 b3 b4 b5 b6 b7 b8 b9 b10 b11 b12 b13 b14 b15 b16 b17 b18 b19 (0#8) (0#8) (0#8) (0#8) (0#8) (0#8) (0#8) (0#8) b19 b20 b21 b22
  let s3 : St := update s1 v2
  s3
def updateRemainder24 (s : St) (b0 b1 b2 b3 b4 b5 b6 b7 b8 b9 b10 b11 b12 b13 b14 b15 b16 b17 b18 b19 b20 b21 b22 b23 b24 b25 b26 b27 b28 b29 b30 b31 : BitVec 8) : St :=
  let s1 : St := updateLanes s 24
  let v2 : V4 := dataToLanes b0 b1 b2 b3 b4 b5 b6 b7 b8 b9 b10 b11 b12 b13 b14 b15 b16 b17 b18 b19 b20 b21 b22 b23 (0#8) (0#8) (0#8) (0#8) b20 b21 b22 b23
  let s3 : St := update s1 v2
  s3
def updateRemainder25 (s : St) (b0 b1 b2 b3 b4 b5 b6 b7 b8 b9 b10 b11 b12 b13 b14 b15 b16 b17 b18 b19 b20 b21 b22 b23 b24 b25 b26 b27 b28 b29 b30 b31 : BitVec 8) : St :=
  let s1 : St := updateLanes s 25
  let v2 : V4 := dataToLanes b0 b1 b2 b3 b4 b5 b6 b7 b8 b9 b10 b11 b12 b13 b14 b15 b16 b17 b18 b19 b20 b21 b22 b23 (0#8) (0#8) (0#8) (0#8) b21 b22 b23 b24
  let s3 : St := update s1 v2
  s3
def updateRemainder26 (s : St) (b0 b1 b2 b3 b4 b5 b6 b7 b8 b9 b10 b11 b12 b13 b14 b15 b16 b17 b18 b19 b20 b21 b22 b23 b24 b25 b26 b27 b28 b29 b30 b31 : BitVec 8) : St :=
  let s1 : St := updateLanes s 26
  let v2 : V4 := dataToLanes b0 b1 b2 b3 b4 b5 b6 b7 b8 b9 b10 b11 b12 b13 b14 b15 b16 b17 b18 b19 b20 b21 b22 b23 (0#8) (0#8) (0#8) (0#8) b22 b23 b24 b25
  let s3 : St := update s1 v2
  s3
def updateRemainder27 (s : St) (b0 b1 b2 b3 b4 b5 b6 b7 b8 b9 b10 b11 b12 b13 b14 b15 b16 b17 b18 b19 b20 b21 b22 b23 b24 b25 b26 b27 b28 b29 b30 b31 : BitVec 8) : St :=
  let s1 : St := updateLanes s 27
  let v2 : V4 := dataToLanes b0 b1 b2 b3 b4 b5 b6 b7 b8 b9 b10 b11 b12 b13 b14 b15 b16 b17 b18 b19 b20 b21 b22 b23 (0#8) (0#8) (0#8) (0#8) b23 b24 b25 b26
  let s3 : St := update s1 v2
  s3
def updateRemainder28 (s : St) (b0 b1 b2 b3 b4 b5 b6 b7 b8 b9 b10 b11 b12 b13 b14 b15 b16 b17 b18 b19 b20 b21 b22 b23 b24 b25 b26 b27 b28 b29 b30 b31 : BitVec 8) : St :=
  let s1 : St := updateLanes s 28
  let v2 : V4 := dataToLanes b0 b1 b2 b3 b4 b5 b6 b7 b8 b9 b10 b11 b12 b13 b14 b15 b16 b17 b18 b19 b20 b21 b22 b23 b24 b25 b26 b27 b24 b25 b26 b27
  let s3 : St := update s1 v2
  s3
def updateRemainder29 (s : St) (b0 b1 b2 b3 b4 b5 b6 b7 b8 b9 b10 b11 b12 b13 b14 b15 b16 b17 b18 b19 b20 b21 b22 b23 b24 b25 b26 b27 b28 b29 b30 b31 : BitVec 8) : St :=
  let s1 : St := updateLanes s 29
  let v2 : V4 := dataToLanes b0 b1 b2 b3 b4 b5 b6 b7 b8 b9 b10 b11 b12 b13 b14 b15 b16 b17 b18 b19 b20 b21 b22 b23 b24 b25 b26 b27 b25 b26 b27 b28
  let s3 : St := update s1 v2
  s3
def updateRemainder30 (s : St) (b0 b1 b2 b3 b4 b5 b6 b7 b8 b9 b10 b11 b12 b13 b14 b15 b16 b17 b18 b19 b20 b21 b22 b23 b24 b25 b26 b27 b28 b29 b30 b31 : BitVec 8) : St :=
  let s1 : St := updateLanes s 30
  let v2 : V4 := dataToLanes b0 b1 b2 b3 b4 b5 b6 b7 b8 b9 b10 b11 b12 b13 b14 b15 b16 b17 b18 b19 b20 b21 b22 b23 b24 b25 b26 b27 b26 b27 b28 b29
  let s3 : St := update s1 v2
  s3
def updateRemainder31 (s : St) (b0 b1 b2 b3 b4 b5 b6 b7 b8 b9 b10 b11 b12 b13 b14 b15 b16 b17 b18 b19 b20 b21 b22 b23 b24 b25 b26 b27 b28 b29 b30 b31 : BitVec 8) : St :=
  let s1 : St := updateLanes s 31
  let v2 : V4 := dataToLanes b0 b1 b2 b3 b4 b5 b6 b7 b8 b9 b10 b11 b12 b13 b14 b15 b16 b17 b18 b19 b20 b21 b22 b23 b24 b25 b26 b27 b27 b28 b29 b30
  let s3 : St := update s1 v2
  s3

def checkpoint0 (s : St) (b0 b1 b2 b3 b4 b5 b6 b7 b8 b9 b10 b11 b12 b13 b14 b15 b16 b17 b18 b19 b20 b21 b22 b23 b24 b25 b26 b27 b28 b29 b30 b31 : BitVec 8) : List (BitVec 8) :=
  [(BitVec.extractLsb' 0 8 s.v0.l0), (BitVec.extractLsb' 8 8 s.v0.l0), (BitVec.extractLsb' 16 8 s.v0.l0), (BitVec.extractLsb' 24 8 s.v0.l0), (BitVec.extractLsb' 32 8 s.v0.l0), (BitVec.extractLsb' 40 8 s.v0.l0), (BitVec.extractLsb' 48 8 s.v0.l0), (BitVec.extractLsb' 56 8 s.v0.l0), (BitVec.extractLsb' 0 8 s.v0.l1), (BitVec.extractLsb' 8 8 s.v0.l1), (BitVec.extractLsb' 16 8 s.v0.l1), (BitVec.extractLsb' 24 8 s.v0.l1), (BitVec.extractLsb' 32 8 s.v0.l1), (BitVec.extractLsb' 40 8 s.v0.l1), (BitVec.extractLsb' 48 8 s.v0.l1), (BitVec.extractLsb' 56 8 s.v0.l1), (BitVec.extractLsb' 0 8 s.v0.l2), (BitVec.extractLsb' 8 8 s.v0.l2), (BitVec.extractLsb' 16 8 s.v0.l2), (BitVec.extractLsb' 24 8 s.v0.l2), (BitVec.extractLsb' 32 8 s.v0.l2), (BitVec.extractLsb' 40 8 s.v0.l2), (BitVec.extractLsb' 48 8 s.v0.l2), (BitVec.extractLsb' 56 8 s.v0.l2), (BitVec.extractLsb' 0 8 s.v0.l3), (BitVec.extractLsb' 8 8 s.v0.l3), (BitVec.extractLsb' 16 8 s.v0.l3), (BitVec.extractLsb' 24 8 s.v0.l3), (BitVec.extractLsb' 32 8 s.v0.l3), (BitVec.extractLsb' 40 8 s.v0.l3), (BitVec.extractLsb' 48 8 s.v0.l3), (BitVec.extractLsb' 56 8 s.v0.l3), (BitVec.extractLsb' 0 8 s.v1.l0), (BitVec.extractLsb' 8 8 s.v1.l0), (BitVec.extractLsb' 16 8 s.v1.l0), (BitVec.extractLsb' 24 8 s.v1.l0), (BitVec.extractLsb' 32 8 s.v1.l0), (BitVec.extractLsb' 40 8 s.v1.l0), (BitVec.extractLsb' 48 8 s.v1.l0), (BitVec.extractLsb' 56 8 s.v1.l0), (BitVec.extractLsb' 0 8 s.v1.l1), (BitVec.extractLsb' 8 8 s.v1.l1), (BitVec.extractLsb' 16 8 s.v1.l1), (BitVec.extractLsb' 24 8 s.v1.l1), (BitVec.extractLsb' 32 8 s.v1.l1), (BitVec.extractLsb' 40 8 s.v1.l1), (BitVec.extractLsb' 48 8 s.v1.l1), (BitVec.extractLsb' 56 8 s.v1.l1), (BitVec.extractLsb' 0 8 s.v1.l2), (BitVec.extractLsb' 8 8 s.v1.l2), (BitVec.extractLsb' 16 8 s.v1.l2), (BitVec.extractLsb' 24 8 s.v1.l2), (BitVec.extractLsb' 32 8 s.v1.l2), (BitVec.extractLsb' 40 8 s.v1.l2), (BitVec.extractLsb' 48 8 s.v1.l2), (BitVec.extractLsb' 56 8 s.v1.l2), (BitVec.extractLsb' 0 8 s.v1.l3), (BitVec.extractLsb' 8 8 s.v1.l3), (BitVec.extractLsb' 16 8 s.v1.l3), (BitVec.extractLsb' 24 8 s.v1.l3), (BitVec.extractLsb' 32 8 s.v1.l3), (BitVec.extractLsb' 40 8 s.v1.l3), (BitVec.extractLsb' 48 8 s.v1.l3), (BitVec.extractLsb' 56 8 s.v1.l3), (BitVec.extractLsb' 0 8 s.mul0.l0), (BitVec.extractLsb' 8 8 s.mul0.l0), (BitVec.extractLsb' 16 8 s.mul0.l0), (BitVec.extractLsb' 24 8 s.mul0.l0), (BitVec.extractLsb' 32 8 s.mul0.l0), (BitVec.extractLsb' 40 8 s.mul0.l0), (BitVec.extractLsb' 48 8 s.mul0.l0), (BitVec.extractLsb' 56 8 s.mul0.l0), (BitVec.extractLsb' 0 8 s.mul0.l1), (BitVec.extractLsb' 8 8 s.mul0.l1), (BitVec.extractLsb' 16 8 s.mul0.l1), (BitVec.extractLsb' 24 8 s.mul0.l1), (BitVec.extractLsb' 32 8 s.mul0.l1), (BitVec.extractLsb' 40 8 s.mul0.l1), (BitVec.extractLsb' 48 8 s.mul0.l1), (BitVec.extractLsb' 56 8 s.mul0.l1), (BitVec.extractLsb' 0 8 s.mul0.l2), (BitVec.extractLsb' 8 8 s.mul0.l2), (BitVec.extractLsb' 16 8 s.mul0.l2), (BitVec.extractLsb' 24 8 s.mul0.l2), (BitVec.extractLsb' 32 8 s.mul0.l2), (BitVec.extractLsb' 40 8 s.mul0.l2), (BitVec.extractLsb' 48 8 s.mul0.l2), (BitVec.extractLsb' 56 8 s.mul0.l2), (BitVec.extractLsb' 0 8 s.mul0.l3), (BitVec.extractLsb' 8 8 s.mul0.l3), (BitVec.extractLsb' 16 8 s.mul0.l3), (BitVec.extractLsb' 24 8 s.mul0.l3), (BitVec.extractLsb' 32 8 s.mul0.l3), (BitVec.extractLsb' 40 8 s.mul0.l3), (BitVec.extractLsb' 48 8 s.mul0.l3), (BitVec.extractLsb' 56 8 s.mul0.l3), (BitVec.extractLsb' 0 8 s.mul1.l0), (BitVec.extractLsb' 8 8 s.mul1.l0), (BitVec.extractLsb' 16 8 s.mul1.l0), (BitVec.extractLsb' 24 8 s.mul1.l0), (BitVec.extractLsb' 32 8 s.mul1.l0), (BitVec.extractLsb' 40 8 s.mul1.l0), (BitVec.extractLsb' 48 8 s.mul1.l0), (BitVec.extractLsb' 56 8 s.mul1.l0), (BitVec.extractLsb' 0 8 s.mul1.l1), (BitVec.extractLsb' 8 8 s.mul1.l1), (BitVec.extractLsb' 16 8 s.mul1.l1), (BitVec.extractLsb' 24 8 s.mul1.l1), (BitVec.extractLsb' 32 8 s.mul1.l1), (BitVec.extractLsb' 40 8 s.mul1.l1), (BitVec.extractLsb' 48 8 s.mul1.l1), (BitVec.extractLsb' 56 8 s.mul1.l1), (BitVec.extractLsb' 0 8 s.mul1.l2), (BitVec.extractLsb' 8 8 s.mul1.l2), (BitVec.extractLsb' 16 8 s.mul1.l2), (BitVec.extractLsb' 24 8 s.mul1.l2), (BitVec.extractLsb' 32 8 s.mul1.l2), (BitVec.extractLsb' 40 8 s.mul1.l2), (BitVec.extractLsb' 48 8 s.mul1.l2), (BitVec.extractLsb' 56 8 s.mul1.l2), (BitVec.extractLsb' 0 8 s.mul1.l3), (BitVec.extractLsb' 8 8 s.mul1.l3), (BitVec.extractLsb' 16 8 s.mul1.l3), (BitVec.extractLsb' 24 8 s.mul1.l3), (BitVec.extractLsb' 32 8 s.mul1.l3), (BitVec.extractLsb' 40 8 s.mul1.l3), (BitVec.extractLsb' 48 8 s.mul1.l3), (BitVec.extractLsb' 56 8 s.mul1.l3), (0#8), (0#8), (0#8), (0#8), (0#8), (0#8), (0#8), (0#8), (0#8), (0#8), (0#8), (0#8), (0#8), (0#8), (0#8), (0#8), (0#8), (0#8), (0#8), (0#8), (0#8), (0#8), (0#8), (0#8), (0#8), (0#8), (0#8), (0#8), (0#8), (0#8), (0#8), (0#8), (BitVec.extractLsb' 0 8 (0#32)), (BitVec.extractLsb' 8 8 (0#32)), (BitVec.extractLsb' 16 8 (0#32)), (BitVec.extractLsb' 24 8 (0#32))]
def checkpoint1 (s : St) (b0 b1 b2 b3 b4 b5 b6 b7 b8 b9 b10 b11 b12 b13 b14 b15 b16 b17 b18 b19 b20 b21 b22 b23 b24 b25 b26 b27 b28 b29 b30 b31 : BitVec 8) : List (BitVec 8) :=
  [(BitVec.extractLsb' 0 8 s.v0.l0), (BitVec.extractLsb' 8 8 s.v0.l0), (BitVec.extractLsb' 16 8 s.v0.l0), (BitVec.extractLsb' 24 8 s.v0.l0), (BitVec.extractLsb' 32 8 s.v0.l0), (BitVec.extractLsb' 40 8 s.v0.l0), (BitVec.extractLsb' 48 8 s.v0.l0), (BitVec.extractLsb' 56 8 s.v0.l0), (BitVec.extractLsb' 0 8 s.v0.l1), (BitVec.extractLsb' 8 8 s.v0.l1), (BitVec.extractLsb' 16 8 s.v0.l1), (BitVec.extractLsb' 24 8 s.v0.l1), (BitVec.extractLsb' 32 8 s.v0.l1), (BitVec.extractLsb' 40 8 s.v0.l1), (BitVec.extractLsb' 48 8 s.v0.l1), (BitVec.extractLsb' 56 8 s.v0.l1), (BitVec.extractLsb' 0 8 s.v0.l2), (BitVec.extractLsb' 8 8 s.v0.l2), (BitVec.extractLsb' 16 8 s.v0.l2), (BitVec.extractLsb' 24 8 s.v0.l2), (BitVec.extractLsb' 32 8 s.v0.l2), (BitVec.extractLsb' 40 8 s.v0.l2), (BitVec.extractLsb' 48 8 s.v0.l2), (BitVec.extractLsb' 56 8 s.v0.l2), (BitVec.extractLsb' 0 8 s.v0.l3), (BitVec.extractLsb' 8 8 s.v0.l3), (BitVec.extractLsb' 16 8 s.v0.l3), (BitVec.extractLsb' 24 8 s.v0.l3), (BitVec.extractLsb' 32 8 s.v0.l3), (BitVec.extractLsb' 40 8 s.v0.l3), (BitVec.extractLsb' 48 8 s.v0.l3), (BitVec.extractLsb' 56 8 s.v0.l3), (BitVec.extractLsb' 0 8 s.v1.l0), (BitVec.extractLsb' 8 8 s.v1.l0), (BitVec.extractLsb' 16 8 s.v1.l0), (BitVec.extractLsb' 24 8 s.v1.l0), (BitVec.extractLsb' 32 8 s.v1.l0), (BitVec.extractLsb' 40 8 s.v1.l0), (BitVec.extractLsb' 48 8 s.v1.l0), (BitVec.extractLsb' 56 8 s.v1.l0), (BitVec.extractLsb' 0 8 s.v1.l1), (BitVec.extractLsb' 8 8 s.v1.l1), (BitVec.extractLsb' 16 8 s.v1.l1), (BitVec.extractLsb' 24 8 s.v1.l1), (BitVec.extractLsb' 32 8 s.v1.l1), (BitVec.extractLsb' 40 8 s.v1.l1), (BitVec.extractLsb' 48 8 s.v1.l1), (BitVec.extractLsb' 56 8 s.v1.l1), (BitVec.extractLsb' 0 8 s.v1.l2), (BitVec.extractLsb' 8 8 s.v1.l2), (BitVec.extractLsb' 16 8 s.v1.l2), (BitVec.extractLsb' 24 8 s.v1.l2), (BitVec.extractLsb' 32 8 s.v1.l2), (BitVec.extractLsb' 40 8 s.v1.l2), (BitVec.extractLsb' 48 8 s.v1.l2), (BitVec.extractLsb' 56 8 s.v1.l2), (BitVec.extractLsb' 0 8 s.v1.l3), (BitVec.extractLsb' 8 8 s.v1.l3), (BitVec.extractLsb' 16 8 s.v1.l3), (BitVec.extractLsb' 24 8 s.v1.l3), (BitVec.extractLsb' 32 8 s.v1.l3), (BitVec.extractLsb' 40 8 s.v1.l3), (BitVec.extractLsb' 48 8 s.v1.l3), (BitVec.extractLsb' 56 8 s.v1.l3), (BitVec.extractLsb' 0 8 s.mul0.l0), (BitVec.extractLsb' 8 8 s.mul0.l0), (BitVec.extractLsb' 16 8 s.mul0.l0), (BitVec.extractLsb' 24 8 s.mul0.l0), (BitVec.extractLsb' 32 8 s.mul0.l0), (BitVec.extractLsb' 40 8 s.mul0.l0), (BitVec.extractLsb' 48 8 s.mul0.l0), (BitVec.extractLsb' 56 8 s.mul0.l0), (BitVec.extractLsb' 0 8 s.mul0.l1), (BitVec.extractLsb' 8 8 s.mul0.l1), (BitVec.extractLsb' 16 8 s.mul0.l1), (BitVec.extractLsb' 24 8 s.mul0.l1), (BitVec.extractLsb' 32 8 s.mul0.l1), (BitVec.extractLsb' 40 8 s.mul0.l1), (BitVec.extractLsb' 48 8 s.mul0.l1), (BitVec.extractLsb' 56 8 s.mul0.l1), (BitVec.extractLsb' 0 8 s.mul0.l2), (BitVec.extractLsb' 8 8 s.mul0.l2), (BitVec.extractLsb' 16 8 s.mul0.l2), (BitVec.extractLsb' 24 8 s.mul0.l2), (BitVec.extractLsb' 32 8 s.mul0.l2), (BitVec.extractLsb' 40 8 s.mul0.l2), (BitVec.extractLsb' 48 8 s.mul0.l2), (BitVec.extractLsb' 56 8 s.mul0.l2), (BitVec.extractLsb' 0 8 s.mul0.l3), (BitVec.extractLsb' 8 8 s.mul0.l3), (BitVec.extractLsb' 16 8 s.mul0.l3), (BitVec.extractLsb' 24 8 s.mul0.l3), (BitVec.extractLsb' 32 8 s.mul0.l3), (BitVec.extractLsb' 40 8 s.mul0.l3), (BitVec.extractLsb' 48 8 s.mul0.l3), (BitVec.extractLsb' 56 8 s.mul0.l3), (BitVec.extractLsb' 0 8 s.mul1.l0), (BitVec.extractLsb' 8 8 s.mul1.l0), (BitVec.extractLsb' 16 8 s.mul1.l0), (BitVec.extractLsb' 24 8 s.mul1.l0), (BitVec.extractLsb' 32 8 s.mul1.l0), (BitVec.extractLsb' 40 8 s.mul1.l0), (BitVec.extractLsb' 48 8 s.mul1.l0), (BitVec.extractLsb' 56 8 s.mul1.l0), (BitVec.extractLsb' 0 8 s.mul1.l1), (BitVec.extractLsb' 8 8 s.mul1.l1), (BitVec.extractLsb' 16 8 s.mul1.l1), (BitVec.extractLsb' 24 8 s.mul1.l1), (BitVec.extractLsb' 32 8 s.mul1.l1), (BitVec.extractLsb' 40 8 s.mul1.l1), (BitVec.extractLsb' 48 8 s.mul1.l1), (BitVec.extractLsb' 56 8 s.mul1.l1), (BitVec.extractLsb' 0 8 s.mul1.l2), (BitVec.extractLsb' 8 8 s.mul1.l2), (BitVec.extractLsb' 16 8 s.mul1.l2), (BitVec.extractLsb' 24 8 s.mul1.l2), (BitVec.extractLsb' 32 8 s.mul1.l2), (BitVec.extractLsb' 40 8 s.mul1.l2), (BitVec.extractLsb' 48 8 s.mul1.l2), (BitVec.extractLsb' 56 8 s.mul1.l2), (BitVec.extractLsb' 0 8 s.mul1.l3), (BitVec.extractLsb' 8 8 s.mul1.l3), (BitVec.extractLsb' 16 8 s.mul1.l3), (BitVec.extractLsb' 24 8 s.mul1.l3), (BitVec.extractLsb' 32 8 s.mul1.l3), (BitVec.extractLsb' 40 8 s.mul1.l3), (BitVec.extractLsb' 48 8 s.mul1.l3), (BitVec.extractLsb' 56 8 s.mul1.l3), b0, (0#8), (0#8), (0#8), (0#8), (0#8), (0#8), (0#8), (0#8), (0#8), (0#8), (0#8), (0#8), (0#8), (0#8), (0#8), (0#8), (0#8), (0#8), (0#8), (0#8), (0#8), (0#8), (0#8), (0#8), (0#8), (0#8), (0#8), (0#8), (0#8), (0#8), (0#8), (BitVec.extractLsb' 0 8 (1#32)), (BitVec.extractLsb' 8 8 (1#32)), (BitVec.extractLsb' 16 8 (1#32)), (BitVec.extractLsb' 24 8 (1#32))]
def checkpoint2 (s : St) (b0 b1 b2 b3 b4 b5 b6 b7 b8 b9 b10 b11 b12 b13 b14 b15 b16 b17 b18 b19 b20 b21 b22 b23 b24 b25 b26 b27 b28 b29 b30 b31 : BitVec 8) : List (BitVec 8) :=
  [(BitVec.extractLsb' 0 8 s.v0.l0), (BitVec.extractLsb' 8 8 s.v0.l0), (BitVec.extractLsb' 16 8 s.v0.l0), (BitVec.extractLsb' 24 8 s.v0.l0), (BitVec.extractLsb' 32 8 s.v0.l0), (BitVec.extractLsb' 40 8 s.v0.l0), (BitVec.extractLsb' 48 8 s.v0.l0), (BitVec.extractLsb' 56 8 s.v0.l0), (BitVec.extractLsb' 0 8 s.v0.l1), (BitVec.extractLsb' 8 8 s.v0.l1), (BitVec.extractLsb' 16 8 s.v0.l1), (BitVec.extractLsb' 24 8 s.v0.l1), (BitVec.extractLsb' 32 8 s.v0.l1), (BitVec.extractLsb' 40 8 s.v0.l1), (BitVec.extractLsb' 48 8 s.v0.l1), (BitVec.extractLsb' 56 8 s.v0.l1), (BitVec.extractLsb' 0 8 s.v0.l2), (BitVec.extractLsb' 8 8 s.v0.l2), (BitVec.extractLsb' 16 8 s.v0.l2), (BitVec.extractLsb' 24 8 s.v0.l2), (BitVec.extractLsb' 32 8 s.v0.l2), (BitVec.extractLsb' 40 8 s.v0.l2), (BitVec.extractLsb' 48 8 s.v0.l2), (BitVec.extractLsb' 56 8 s.v0.l2), (BitVec.extractLsb' 0 8 s.v0.l3), (BitVec.extractLsb' 8 8 s.v0.l3), (BitVec.extractLsb' 16 8 s.v0.l3), (BitVec.extractLsb' 24 8 s.v0.l3), (BitVec.extractLsb' 32 8 s.v0.l3), (BitVec.extractLsb' 40 8 s.v0.l3), (BitVec.extractLsb' 48 8 s.v0.l3), (BitVec.extractLsb' 56 8 s.v0.l3), (BitVec.extractLsb' 0 8 s.v1.l0), (BitVec.extractLsb' 8 8 s.v1.l0), (BitVec.extractLsb' 16 8 s.v1.l0), (BitVec.extractLsb' 24 8 s.v1.l0), (BitVec.extractLsb' 32 8 s.v1.l0), (BitVec.extractLsb' 40 8 s.v1.l0), (BitVec.extractLsb' 48 8 s.v1.l0), (BitVec.extractLsb' 56 8 s.v1.l0), (BitVec.extractLsb' 0 8 s.v1.l1), (BitVec.extractLsb' 8 8 s.v1.l1), (BitVec.extractLsb' 16 8 s.v1.l1), (BitVec.extractLsb' 24 8 s.v1.l1), (BitVec.extractLsb' 32 8 s.v1.l1), (BitVec.extractLsb' 40 8 s.v1.l1), (BitVec.extractLsb' 48 8 s.v1.l1), (BitVec.extractLsb' 56 8 s.v1.l1), (BitVec.extractLsb' 0 8 s.v1.l2), (BitVec.extractLsb' 8 8 s.v1.l2), (BitVec.extractLsb' 16 8 s.v1.l2), (BitVec.extractLsb' 24 8 s.v1.l2), (BitVec.extractLsb' 32 8 s.v1.l2), (BitVec.extractLsb' 40 8 s.v1.l2), (BitVec.extractLsb' 48 8 s.v1.l2), (BitVec.extractLsb' 56 8 s.v1.l2), (BitVec.extractLsb' 0 8 s.v1.l3), (BitVec.extractLsb' 8 8 s.v1.l3), (BitVec.extractLsb' 16 8 s.v1.l3), (BitVec.extractLsb' 24 8 s.v1.l3), (BitVec.extractLsb' 32 8 s.v1.l3), (BitVec.extractLsb' 40 8 s.v1.l3), (BitVec.extractLsb' 48 8 s.v1.l3), (BitVec.extractLsb' 56 8 s.v1.l3), (BitVec.extractLsb' 0 8 s.mul0.l0), (BitVec.extractLsb' 8 8 s.mul0.l0), (BitVec.extractLsb' 16 8 s.mul0.l0), (BitVec.extractLsb' 24 8 s.mul0.l0), (BitVec.extractLsb' 32 8 s.mul0.l0), (BitVec.extractLsb' 40 8 s.mul0.l0), (BitVec.extractLsb' 48 8 s.mul0.l0), (BitVec.extractLsb' 56 8 s.mul0.l0), (BitVec.extractLsb' 0 8 s.mul0.l1), (BitVec.extractLsb' 8 8 s.mul0.l1), (BitVec.extractLsb' 16 8 s.mul0.l1), (BitVec.extractLsb' 24 8 s.mul0.l1), (BitVec.extractLsb' 32 8 s.mul0.l1), (BitVec.extractLsb' 40 8 s.mul0.l1), (BitVec.extractLsb' 48 8 s.mul0.l1), (BitVec.extractLsb' 56 8 s.mul0.l1), (BitVec.extractLsb' 0 8 s.mul0.l2), (BitVec.extractLsb' 8 8 s.mul0.l2), (BitVec.extractLsb' 16 8 s.mul0.l2), (BitVec.extractLsb' 24 8 s.mul0.l2), (BitVec.extractLsb' 32 8 s.mul0.l2), (BitVec.extractLsb' 40 8 s.mul0.l2), (BitVec.extractLsb' 48 8 s.mul0.l2), (BitVec.extractLsb' 56 8 s.mul0.l2), (BitVec.extractLsb' 0 8 s.mul0.l3), (BitVec.extractLsb' 8 8 s.mul0.l3), (BitVec.extractLsb' 16 8 s.mul0.l3), (BitVec.extractLsb' 24 8 s.mul0.l3), (BitVec.extractLsb' 32 8 s.mul0.l3), (BitVec.extractLsb' 40 8 s.mul0.l3), (BitVec.extractLsb' 48 8 s.mul0.l3), (BitVec.extractLsb' 56 8 s.mul0.l3), (BitVec.extractLsb' 0 8 s.mul1.l0), (BitVec.extractLsb' 8 8 s.mul1.l0), (BitVec.extractLsb' 16 8 s.mul1.l0), (BitVec.extractLsb' 24 8 s.mul1.l0), (BitVec.extractLsb' 32 8 s.mul1.l0), (BitVec.extractLsb' 40 8 s.mul1.l0), (BitVec.extractLsb' 48 8 s.mul1.l0), (BitVec.extractLsb' 56 8 s.mul1.l0), (BitVec.extractLsb' 0 8 s.mul1.l1), (BitVec.extractLsb' 8 8 s.mul1.l1), (BitVec.extractLsb' 16 8 s.mul1.l1), (BitVec.extractLsb' 24 8 s.mul1.l1), (BitVec.extractLsb' 32 8 s.mul1.l1), (BitVec.extractLsb' 40 8 s.mul1.l1), (BitVec.extractLsb' 48 8 s.mul1.l1), (BitVec.extractLsb' 56 8 s.mul1.l1), (BitVec.extractLsb' 0 8 s.mul1.l2), (BitVec.extractLsb' 8 8 s.mul1.l2), (BitVec.extractLsb' 16 8 s.mul1.l2), (BitVec.extractLsb' 24 8 s.mul1.l2), (BitVec.extractLsb' 32 8 s.mul1.l2), (BitVec.extractLsb' 40 8 s.mul1.l2), (BitVec.extractLsb' 48 8 s.mul1.l2), (BitVec.extractLsb' 56 8 s.mul1.l2), (BitVec.extractLsb' 0 8 s.mul1.l3), (BitVec.extractLsb' 8 8 s.mul1.l3), (BitVec.extractLsb' 16 8 s.mul1.l3), (BitVec.extractLsb' 24 8 s.mul1.l3), (BitVec.extractLsb' 32 8 s.mul1.l3), (BitVec.extractLsb' 40 8 s.mul1.l3), (BitVec.extractLsb' 48 8 s.mul1.l3), (BitVec.extractLsb' 56 8 s.mul1.l3), b0, b1, (0#8), (0#8), (0#8), (0#8), (0#8), (0#8), (0#8), (0#8), (0#8), (0#8), (0#8), (0#8), (0#8), (0#8), (0#8), (0#8), (0#8), (0#8), (0#8), (0#8), (0#8), (0#8), (0#8), (0#8), (0#8), (0#8), (0#8), (0#8), (0#8), (0#8), (BitVec.extractLsb' 0 8 (2#32)), (BitVec.extractLsb' 8 8 (2#32)), (BitVec.extractLsb' 16 8 (2#32)), (BitVec.extractLsb' 24 8 (2#32))]
def checkpoint3 (s : St) (b0 b1 b2 b3 b4 b5 b6 b7 b8 b9 b10 b11 b12 b13 b14 b15 b16 b17 b18 b19 b20 b21 b22 b23 b24 b25 b26 b27 b28 b29 b30 b31 : BitVec 8) : List (BitVec 8) :=
  [(BitVec.extractLsb' 0 8 s.v0.l0), (BitVec.extractLsb' 8 8 s.v0.l0), (BitVec.extractLsb' 16 8 s.v0.l0), (BitVec.extractLsb' 24 8 s.v0.l0), (BitVec.extractLsb' 32 8 s.v0.l0), (BitVec.extractLsb' 40 8 s.v0.l0), (BitVec.extractLsb' 48 8 s.v0.l0), (BitVec.extractLsb' 56 8 s.v0.l0), (BitVec.extractLsb' 0 8 s.v0.l1), (BitVec.extractLsb' 8 8 s.v0.l1), (BitVec.extractLsb' 16 8 s.v0.l1), (BitVec.extractLsb' 24 8 s.v0.l1), (BitVec.extractLsb' 32 8 s.v0.l1), (BitVec.extractLsb' 40 8 s.v0.l1), (BitVec.extractLsb' 48 8 s.v0.l1), (BitVec.extractLsb' 56 8 s.v0.l1), (BitVec.extractLsb' 0 8 s.v0.l2), (BitVec.extractLsb' 8 8 s.v0.l2), (BitVec.extractLsb' 16 8 s.v0.l2), (BitVec.extractLsb' 24 8 s.v0.l2), (BitVec.extractLsb' 32 8 s.v0.l2), (BitVec.extractLsb' 40 8 s.v0.l2), (BitVec.extractLsb' 48 8 s.v0.l2), (BitVec.extractLsb' 56 8 s.v0.l2), (BitVec.extractLsb' 0 8 s.v0.l3), (BitVec.extractLsb' 8 8 s.v0.l3), (BitVec.extractLsb' 16 8 s.v0.l3), (BitVec.extractLsb' 24 8 s.v0.l3), (BitVec.extractLsb' 32 8 s.v0.l3), (BitVec.extractLsb' 40 8 s.v0.l3), (BitVec.extractLsb' 48 8 s.v0.l3), (BitVec.extractLsb' 56 8 s.v0.l3), (BitVec.extractLsb' 0 8 s.v1.l0), (BitVec.extractLsb' 8 8 s.v1.l0), (BitVec.extractLsb' 16 8 s.v1.l0), (BitVec.extractLsb' 24 8 s.v1.l0), (BitVec.extractLsb' 32 8 s.v1.l0), (BitVec.extractLsb' 40 8 s.v1.l0), (BitVec.extractLsb' 48 8 s.v1.l0), (BitVec.extractLsb' 56 8 s.v1.l0), (BitVec.extractLsb' 0 8 s.v1.l1), (BitVec.extractLsb' 8 8 s.v1.l1), (BitVec.extractLsb' 16 8 s.v1.l1), (BitVec.extractLsb' 24 8 s.v1.l1), (BitVec.extractLsb' 32 8 s.v1.l1), (BitVec.extractLsb' 40 8 s.v1.l1), (BitVec.extractLsb' 48 8 s.v1.l1), (BitVec.extractLsb' 56 8 s.v1.l1), (BitVec.extractLsb' 0 8 s.v1.l2), (BitVec.extractLsb' 8 8 s.v1.l2), (BitVec.extractLsb' 16 8 s.v1.l2), (BitVec.extractLsb' 24 8 s.v1.l2), (BitVec.extractLsb' 32 8 s.v1.l2), (BitVec.extractLsb' 40 8 s.v1.l2), (BitVec.extractLsb' 48 8 s.v1.l2), (BitVec.extractLsb' 56 8 s.v1.l2), (BitVec.extractLsb' 0 8 s.v1.l3), (BitVec.extractLsb' 8 8 s.v1.l3), (BitVec.extractLsb' 16 8 s.v1.l3), (BitVec.extractLsb' 24 8 s.v1.l3), (BitVec.extractLsb' 32 8 s.v1.l3), (BitVec.extractLsb' 40 8 s.v1.l3), (BitVec.extractLsb' 48 8 s.v1.l3), (BitVec.extractLsb' 56 8 s.v1.l3), (BitVec.extractLsb' 0 8 s.mul0.l0), (BitVec.extractLsb' 8 8 s.mul0.l0), (BitVec.extractLsb' 16 8 s.mul0.l0), (BitVec.extractLsb' 24 8 s.mul0.l0), (BitVec.extractLsb' 32 8 s.mul0.l0), (BitVec.extractLsb' 40 8 s.mul0.l0), (BitVec.extractLsb' 48 8 s.mul0.l0), (BitVec.extractLsb' 56 8 s.mul0.l0), (BitVec.extractLsb' 0 8 s.mul0.l1), (BitVec.extractLsb' 8 8 s.mul0.l1), (BitVec.extractLsb' 16 8 s.mul0.l1), (BitVec.extractLsb' 24 8 s.mul0.l1), (BitVec.extractLsb' 32 8 s.mul0.l1), (BitVec.extractLsb' 40 8 s.mul0.l1), (BitVec.extractLsb' 48 8 s.mul0.l1), (BitVec.extractLsb' 56 8 s.mul0.l1), (BitVec.extractLsb' 0 8 s.mul0.l2), (BitVec.extractLsb' 8 8 s.mul0.l2), (BitVec.extractLsb' 16 8 s.mul0.l2), (BitVec.extractLsb' 24 8 s.mul0.l2), (BitVec.extractLsb' 32 8 s.mul0.l2), (BitVec.extractLsb' 40 8 s.mul0.l2), (BitVec.extractLsb' 48 8 s.mul0.l2), (BitVec.extractLsb' 56 8 s.mul0.l2), (BitVec.extractLsb' 0 8 s.mul0.l3), (BitVec.extractLsb' 8 8 s.mul0.l3), (BitVec.extractLsb' 16 8 s.mul0.l3), (BitVec.extractLsb' 24 8 s.mul0.l3), (BitVec.extractLsb' 32 8 s.mul0.l3), (BitVec.extractLsb' 40 8 s.mul0.l3), (BitVec.extractLsb' 48 8 s.mul0.l3), (BitVec.extractLsb' 56 8 s.mul0.l3), (BitVec.extractLsb' 0 8 s.mul1.l0), (BitVec.extractLsb' 8 8 s.mul1.l0), (BitVec.extractLsb' 16 8 s.mul1.l0), (BitVec.extractLsb' 24 8 s.mul1.l0), (BitVec.extractLsb' 32 8 s.mul1.l0), (BitVec.extractLsb' 40 8 s.mul1.l0), (BitVec.extractLsb' 48 8 s.mul1.l0), (BitVec.extractLsb' 56 8 s.mul1.l0), (BitVec.extractLsb' 0 8 s.mul1.l1), (BitVec.extractLsb' 8 8 s.mul1.l1), (BitVec.extractLsb' 16 8 s.mul1.l1), (BitVec.extractLsb' 24 8 s.mul1.l1), (BitVec.extractLsb' 32 8 s.mul1.l1), (BitVec.extractLsb' 40 8 s.mul1.l1), (BitVec.extractLsb' 48 8 s.mul1.l1), (BitVec.extractLsb' 56 8 s.mul1.l1), (BitVec.extractLsb' 0 8 s.mul1.l2), (BitVec.extractLsb' 8 8 s.mul1.l2), (BitVec.extractLsb' 16 8 s.mul1.l2), (BitVec.extractLsb' 24 8 s.mul1.l2), (BitVec.extractLsb' 32 8 s.mul1.l2), (BitVec.extractLsb' 40 8 s.mul1.l2), (BitVec.extractLsb' 48 8 s.mul1.l2), (BitVec.extractLsb' 56 8 s.mul1.l2), (BitVec.extractLsb' 0 8 s.mul1.l3), (BitVec.extractLsb' 8 8 s.mul1.l3), (BitVec.extractLsb' 16 8 s.mul1.l3), (BitVec.extractLsb' 24 8 s.mul1.l3), (BitVec.extractLsb' 32 8 s.mul1.l3), (BitVec.extractLsb' 40 8 s.mul1.l3), (BitVec.extractLsb' 48 8 s.mul1.l3), (BitVec.extractLsb' 56 8 s.mul1.l3), b0, b1, b2, (0#8), (0#8), (0#8), (0#8), (0#8), (0#8), (0#8), (0#8), (0#8), (0#8), (0#8), (0#8), (0#8), (0#8), (0#8), (0#8), (0#8), (0#8), (0#8), (0#8), (0#8), (0#8), (0#8), (0#8), (0#8), (0#8), (0#8), (0#8), (0#8), (BitVec.extractLsb' 0 8 (3#32)), (BitVec.extractLsb' 8 8 (3#32)), (BitVec.extractLsb' 16 8 (3#32)), (BitVec.extractLsb' 24 8 (3#32))]
def checkpoint4 (s : St) (b0 b1 b2 b3 b4 b5 b6 b7 b8 b9 b10 b11 b12 b13 b14 b15 b16 b17 b18 b19 b20 b21 b22 b23 b24 b25 b26 b27 b28 b29 b30 b31 : BitVec 8) : List (BitVec 8) :=
  [(BitVec.extractLsb' 0 8 s.v0.l0), (BitVec.extractLsb' 8 8 s.v0.l0), (BitVec.extractLsb' 16 8 s.v0.l0), (BitVec.extractLsb' 24 8 s.v0.l0), (BitVec.extractLsb' 32 8 s.v0.l0), (BitVec.extractLsb' 40 8 s.v0.l0), (BitVec.extractLsb' 48 8 s.v0.l0), (BitVec.extractLsb' 56 8 s.v0.l0), (BitVec.extractLsb' 0 8 s.v0.l1), (BitVec.extractLsb' 8 8 s.v0.l1), (BitVec.extractLsb' 16 8 s.v0.l1), (BitVec.extractLsb' 24 8 s.v0.l1), (BitVec.extractLsb' 32 8 s.v0.l1), (BitVec.extractLsb' 40 8 s.v0.l1), (BitVec.extractLsb' 48 8 s.v0.l1), (BitVec.extractLsb' 56 8 s.v0.l1), (BitVec.extractLsb' 0 8 s.v0.l2), (BitVec.extractLsb' 8 8 s.v0.l2), (BitVec.extractLsb' 16 8 s.v0.l2), (BitVec.extractLsb' 24 8 s.v0.l2), (BitVec.extractLsb' 32 8 s.v0.l2), (BitVec.extractLsb' 40 8 s.v0.l2), (BitVec.extractLsb' 48 8 s.v0.l2), (BitVec.extractLsb' 56 8 s.v0.l2), (BitVec.extractLsb' 0 8 s.v0.l3), (BitVec.extractLsb' 8 8 s.v0.l3), (BitVec.extractLsb' 16 8 s.v0.l3), (BitVec.extractLsb' 24 8 s.v0.l3), (BitVec.extractLsb' 32 8 s.v0.l3), (BitVec.extractLsb' 40 8 s.v0.l3), (BitVec.extractLsb' 48 8 s.v0.l3), (BitVec.extractLsb' 56 8 s.v0.l3), (BitVec.extractLsb' 0 8 s.v1.l0), (BitVec.extractLsb' 8 8 s.v1.l0), (BitVec.extractLsb' 16 8 s.v1.l0), (BitVec.extractLsb' 24 8 s.v1.l0), (BitVec.extractLsb' 32 8 s.v1.l0), (BitVec.extractLsb' 40 8 s.v1.l0), (BitVec.extractLsb' 48 8 s.v1.l0), (BitVec.extractLsb' 56 8 s.v1.l0), (BitVec.extractLsb' 0 8 s.v1.l1), (BitVec.extractLsb' 8 8 s.v1.l1), (BitVec.extractLsb' 16 8 s.v1.l1), (BitVec.extractLsb' 24 8 s.v1.l1), (BitVec.extractLsb' 32 8 s.v1.l1), (BitVec.extractLsb' 40 8 s.v1.l1), (BitVec.extractLsb' 48 8 s.v1.l1), (BitVec.extractLsb' 56 8 s.v1.l1), (BitVec.extractLsb' 0 8 s.v1.l2), (BitVec.extractLsb' 8 8 s.v1.l2), (BitVec.extractLsb' 16 8 s.v1.l2), (BitVec.extractLsb' 24 8 s.v1.l2), (BitVec.extractLsb' 32 8 s.v1.l2), (BitVec.extractLsb' 40 8 s.v1.l2), (BitVec.extractLsb' 48 8 s.v1.l2), (BitVec.extractLsb' 56 8 s.v1.l2), (BitVec.extractLsb' 0 8 s.v1.l3), (BitVec.extractLsb' 8 8 s.v1.l3), (BitVec.extractLsb' 16 8 s.v1.l3), (BitVec.extractLsb' 24 8 s.v1.l3), (BitVec.extractLsb' 32 8 s.v1.l3), (BitVec.extractLsb' 40 8 s.v1.l3), (BitVec.extractLsb' 48 8 s.v1.l3), (BitVec.extractLsb' 56 8 s.v1.l3), (BitVec.extractLsb' 0 8 s.mul0.l0), (BitVec.extractLsb' 8 8 s.mul0.l0), (BitVec.extractLsb' 16 8 s.mul0.l0), (BitVec.extractLsb' 24 8 s.mul0.l0), (BitVec.extractLsb' 32 8 s.mul0.l0), (BitVec.extractLsb' 40 8 s.mul0.l0), (BitVec.extractLsb' 48 8 s.mul0.l0), (BitVec.extractLsb' 56 8 s.mul0.l0), (BitVec.extractLsb' 0 8 s.mul0.l1), (BitVec.extractLsb' 8 8 s.mul0.l1), (BitVec.extractLsb' 16 8 s.mul0.l1), (BitVec.extractLsb' 24 8 s.mul0.l1), (BitVec.extractLsb' 32 8 s.mul0.l1), (BitVec.extractLsb' 40 8 s.mul0.l1), (BitVec.extractLsb' 48 8 s.mul0.l1), (BitVec.extractLsb' 56 8 s.mul0.l1), (BitVec.extractLsb' 0 8 s.mul0.l2), (BitVec.extractLsb' 8 8 s.mul0.l2), (BitVec.extractLsb' 16 8 s.mul0.l2), (BitVec.extractLsb' 24 8 s.mul0.l2), (BitVec.extractLsb' 32 8 s.mul0.l2), (BitVec.extractLsb' 40 8 s.mul0.l2), (BitVec.extractLsb' 48 8 s.mul0.l2), (BitVec.extractLsb' 56 8 s.mul0.l2), (BitVec.extractLsb' 0 8 s.mul0.l3), (BitVec.extractLsb' 8 8 s.mul0.l3), (BitVec.extractLsb' 16 8 s.mul0.l3), (BitVec.extractLsb' 24 8 s.mul0.l3), (BitVec.extractLsb' 32 8 s.mul0.l3), (BitVec.extractLsb' 40 8 s.mul0.l3), (BitVec.extractLsb' 48 8 s.mul0.l3), (BitVec.extractLsb' 56 8 s.mul0.l3), (BitVec.extractLsb' 0 8 s.mul1.l0), (BitVec.extractLsb' 8 8 s.mul1.l0), (BitVec.extractLsb' 16 8 s.mul1.l0), (BitVec.extractLsb' 24 8 s.mul1.l0), (BitVec.extractLsb' 32 8 s.mul1.l0), (BitVec.extractLsb' 40 8 s.mul1.l0), (BitVec.extractLsb' 48 8 s.mul1.l0), (BitVec.extractLsb' 56 8 s.mul1.l0), (BitVec.extractLsb' 0 8 s.mul1.l1), (BitVec.extractLsb' 8 8 s.mul1.l1), (BitVec.extractLsb' 16 8 s.mul1.l1), (BitVec.extractLsb' 24 8 s.mul1.l1), (BitVec.extractLsb' 32 8 s.mul1.l1), (BitVec.extractLsb' 40 8 s.mul1.l1), (BitVec.extractLsb' 48 8 s.mul1.l1), (BitVec.extractLsb' 56 8 s.mul1.l1), (BitVec.extractLsb' 0 8 s.mul1.l2), (BitVec.extractLsb' 8 8 s.mul1.l2), (BitVec.extractLsb' 16 8 s.mul1.l2), (BitVec.extractLsb' 24 8 s.mul1.l2), (BitVec.extractLsb' 32 8 s.mul1.l2), (BitVec.extractLsb' 40 8 s.mul1.l2), (BitVec.extractLsb' 48 8 s.mul1.l2), (BitVec.extractLsb' 56 8 s.mul1.l2), (BitVec.extractLsb' 0 8 s.mul1.l3), (BitVec.extractLsb' 8 8 s.mul1.l3), (BitVec.extractLsb' 16 8 s.mul1.l3), (BitVec.extractLsb' 24 8 s.mul1.l3), (BitVec.extractLsb' 32 8 s.mul1.l3), (BitVec.extractLsb' 40 8 s.mul1.l3), (BitVec.extractLsb' 48 8 s.mul1.l3), (BitVec.extractLsb' 56 8 s.mul1.l3), b0, b1, b2, b3, (0#8), (0#8), (0#8), (0#8), (0#8), (0#8), (0#8), (0#8), (0#8), (0#8), (0#8), (0#8), (0#8), (0#8), (0#8), (0#8), (0#8), (0#8), (0#8), (0#8), (0#8), (0#8), (0#8), (0#8), (0#8), (0#8), (0#8), (0#8), (BitVec.extractLsb' 0 8 (4#32)), (BitVec.extractLsb' 8 8 (4#32)), (BitVec.extractLsb' 16 8 (4#32)), (BitVec.extractLsb' 24 8 (4#32))]
def checkpoint5 (s : St) (b0 b1 b2 b3 b4 b5 b6 b7 b8 b9 b10 b11 b12 b13 b14 b15 b16 b17 b18 b19 b20 b21 b22 b23 b24 b25 b26 b27 b28 b29 b30 b31 : BitVec 8) : List (BitVec 8) :=
  [(BitVec.extractLsb' 0 8 s.v0.l0), (BitVec.extractLsb' 8 8 s.v0.l0), (BitVec.extractLsb' 16 8 s.v0.l0), (BitVec.extractLsb' 24 8 s.v0.l0), (BitVec.extractLsb' 32 8 s.v0.l0), (BitVec.extractLsb' 40 8 s.v0.l0), (BitVec.extractLsb' 48 8 s.v0.l0), (BitVec.extractLsb' 56 8 s.v0.l0), (BitVec.extractLsb' 0 8 s.v0.l1), (BitVec.extractLsb' 8 8 s.v0.l1), (BitVec.extractLsb' 16 8 s.v0.l1), (BitVec.extractLsb' 24 8 s.v0.l1), (BitVec.extractLsb' 32 8 s.v0.l1), (BitVec.extractLsb' 40 8 s.v0.l1), (BitVec.extractLsb' 48 8 s.v0.l1), (BitVec.extractLsb' 56 8 s.v0.l1), (BitVec.extractLsb' 0 8 s.v0.l2), (BitVec.extractLsb' 8 8 s.v0.l2), (BitVec.extractLsb' 16 8 s.v0.l2), (BitVec.extractLsb' 24 8 s.v0.l2), (BitVec.extractLsb' 32 8 s.v0.l2), (BitVec.extractLsb' 40 8 s.v0.l2), (BitVec.extractLsb' 48 8 s.v0.l2), (BitVec.extractLsb' 56 8 s.v0.l2), (BitVec.extractLsb' 0 8 s.v0.l3), (BitVec.extractLsb' 8 8 s.v0.l3), (BitVec.extractLsb' 16 8 s.v0.l3), (BitVec.extractLsb' 24 8 s.v0.l3), (BitVec.extractLsb' 32 8 s.v0.l3), (BitVec.extractLsb' 40 8 s.v0.l3), (BitVec.extractLsb' 48 8 s.v0.l3), (BitVec.extractLsb' 56 8 s.v0.l3), (BitVec.extractLsb' 0 8 s.v1.l0), (BitVec.extractLsb' 8 8 s.v1.l0), (BitVec.extractLsb' 16 8 s.v1.l0), (BitVec.extractLsb' 24 8 s.v1.l0), (BitVec.extractLsb' 32 8 s.v1.l0), (BitVec.extractLsb' 40 8 s.v1.l0), (BitVec.extractLsb' 48 8 s.v1.l0), (BitVec.extractLsb' 56 8 s.v1.l0), (BitVec.extractLsb' 0 8 s.v1.l1), (BitVec.extractLsb' 8 8 s.v1.l1), (BitVec.extractLsb' 16 8 s.v1.l1), (BitVec.extractLsb' 24 8 s.v1.l1), (BitVec.extractLsb' 32 8 s.v1.l1), (BitVec.extractLsb' 40 8 s.v1.l1), (BitVec.extractLsb' 48 8 s.v1.l1), (BitVec.extractLsb' 56 8 s.v1.l1), (BitVec.extractLsb' 0 8 s.v1.l2), (BitVec.extractLsb' 8 8 s.v1.l2), (BitVec.extractLsb' 16 8 s.v1.l2), (BitVec.extractLsb' 24 8 s.v1.l2), (BitVec.extractLsb' 32 8 s.v1.l2), (BitVec.extractLsb' 40 8 s.v1.l2), (BitVec.extractLsb' 48 8 s.v1.l2), (BitVec.extractLsb' 56 8 s.v1.l2), (BitVec.extractLsb' 0 8 s.v1.l3), (BitVec.extractLsb' 8 8 s.v1.l3), (BitVec.extractLsb' 16 8 s.v1.l3), (BitVec.extractLsb' 24 8 s.v1.l3), (BitVec.extractLsb' 32 8 s.v1.l3), (BitVec.extractLsb' 40 8 s.v1.l3), (BitVec.extractLsb' 48 8 s.v1.l3), (BitVec.extractLsb' 56 8 s.v1.l3), (BitVec.extractLsb' 0 8 s.mul0.l0), (BitVec.extractLsb' 8 8 s.mul0.l0), (BitVec.extractLsb' 16 8 s.mul0.l0), (BitVec.extractLsb' 24 8 s.mul0.l0), (BitVec.extractLsb' 32 8 s.mul0.l0), (BitVec.extractLsb' 40 8 s.mul0.l0), (BitVec.extractLsb' 48 8 s.mul0.l0), (BitVec.extractLsb' 56 8 s.mul0.l0), (BitVec.extractLsb' 0 8 s.mul0.l1), (BitVec.extractLsb' 8 8 s.mul0.l1), (BitVec.extractLsb' 16 8 s.mul0.l1), (BitVec.extractLsb' 24 8 s.mul0.l1), (BitVec.extractLsb' 32 8 s.mul0.l1), (BitVec.extractLsb' 40 8 s.mul0.l1), (BitVec.extractLsb' 48 8 s.mul0.l1), (BitVec.extractLsb' 56 8 s.mul0.l1), (BitVec.extractLsb' 0 8 s.mul0.l2), (BitVec.extractLsb' 8 8 s.mul0.l2), (BitVec.extractLsb' 16 8 s.mul0.l2), (BitVec.extractLsb' 24 8 s.mul0.l2), (BitVec.extractLsb' 32 8 s.mul0.l2), (BitVec.extractLsb' 40 8 s.mul0.l2), (BitVec.extractLsb' 48 8 s.mul0.l2), (BitVec.extractLsb' 56 8 s.mul0.l2), (BitVec.extractLsb' 0 8 s.mul0.l3), (BitVec.extractLsb' 8 8 s.mul0.l3), (BitVec.extractLsb' 16 8 s.mul0.l3), (BitVec.extractLsb' 24 8 s.mul0.l3), (BitVec.extractLsb' 32 8 s.mul0.l3), (BitVec.extractLsb' 40 8 s.mul0.l3), (BitVec.extractLsb' 48 8 s.mul0.l3), (BitVec.extractLsb' 56 8 s.mul0.l3), (BitVec.extractLsb' 0 8 s.mul1.l0), (BitVec.extractLsb' 8 8 s.mul1.l0), (BitVec.extractLsb' 16 8 s.mul1.l0), (BitVec.extractLsb' 24 8 s.mul1.l0), (BitVec.extractLsb' 32 8 s.mul1.l0), (BitVec.extractLsb' 40 8 s.mul1.l0), (BitVec.extractLsb' 48 8 s.mul1.l0), (BitVec.extractLsb' 56 8 s.mul1.l0), (BitVec.extractLsb' 0 8 s.mul1.l1), (BitVec.extractLsb' 8 8 s.mul1.l1), (BitVec.extractLsb' 16 8 s.mul1.l1), (BitVec.extractLsb' 24 8 s.mul1.l1), (BitVec.extractLsb' 32 8 s.mul1.l1), (BitVec.extractLsb' 40 8 s.mul1.l1), (BitVec.extractLsb' 48 8 s.mul1.l1), (BitVec.extractLsb' 56 8 s.mul1.l1), (BitVec.extractLsb' 0 8 s.mul1.l2), (BitVec.extractLsb' 8 8 s.mul1.l2), (BitVec.extractLsb' 16 8 s.mul1.l2), (BitVec.extractLsb' 24 8 s.mul1.l2), (BitVec.extractLsb' 32 8 s.mul1.l2), (BitVec.extractLsb' 40 8 s.mul1.l2), (BitVec.extractLsb' 48 8 s.mul1.l2), (BitVec.extractLsb' 56 8 s.mul1.l2), (BitVec.extractLsb' 0 8 s.mul1.l3), (BitVec.extractLsb' 8 8 s.mul1.l3), (BitVec.extractLsb' 16 8 s.mul1.l3), (BitVec.extractLsb' 24 8 s.mul1.l3), (BitVec.extractLsb' 32 8 s.mul1.l3), (BitVec.extractLsb' 40 8 s.mul1.l3), (BitVec.extractLsb' 48 8 s.mul1.l3), (BitVec.extractLsb' 56 8 s.mul1.l3), b0, b1, b2, b3, b4, (0#8), (0#8), (0#8), (0#8), (0#8), (0#8), (0#8), (0#8), (0#8), (0#8), (0#8), (0#8), (0#8), (0#8), (0#8), (0#8), (0#8), (0#8), (0#8), (0#8), (0#8), (0#8), (0#8), (0#8), (0#8), (0#8), (0#8), (BitVec.extractLsb' 0 8 (5#32)), (BitVec.extractLsb' 8 8 (5#32)), (BitVec.extractLsb' 16 8 (5#32)), (BitVec.extractLsb' 24 8 (5#32))]
def checkpoint6 (s : St) (b0 b1 b2 b3 b4 b5 b6 b7 b8 b9 b10 b11 b12 b13 b14 b15 b16 b17 b18 b19 b20 b21 b22 b23 b24 b25 b26 b27 b28 b29 b30 b31 : BitVec 8) : List (BitVec 8) :=
  [(BitVec.extractLsb' 0 8 s.v0.l0), (BitVec.extractLsb' 8 8 s.v0.l0), (BitVec.extractLsb' 16 8 s.v0.l0), (BitVec.extractLsb' 24 8 s.v0.l0), (BitVec.extractLsb' 32 8 s.v0.l0), (BitVec.extractLsb' 40 8 s.v0.l0), (BitVec.extractLsb' 48 8 s.v0.l0), (BitVec.extractLsb' 56 8 s.v0.l0), (BitVec.extractLsb' 0 8 s.v0.l1), (BitVec.extractLsb' 8 8 s.v0.l1), (BitVec.extractLsb' 16 8 s.v0.l1), (BitVec.extractLsb' 24 8 s.v0.l1), (BitVec.extractLsb' 32 8 s.v0.l1), (BitVec.extractLsb' 40 8 s.v0.l1), (BitVec.extractLsb' 48 8 s.v0.l1), (BitVec.extractLsb' 56 8 s.v0.l1), (BitVec.extractLsb' 0 8 s.v0.l2), (BitVec.extractLsb' 8 8 s.v0.l2), (BitVec.extractLsb' 16 8 s.v0.l2), (BitVec.extractLsb' 24 8 s.v0.l2), (BitVec.extractLsb' 32 8 s.v0.l2), (BitVec.extractLsb' 40 8 s.v0.l2), (BitVec.extractLsb' 48 8 s.v0.l2), (BitVec.extractLsb' 56 8 s.v0.l2), (BitVec.extractLsb' 0 8 s.v0.l3), (BitVec.extractLsb' 8 8 s.v0.l3), (BitVec.extractLsb' 16 8 s.v0.l3), (BitVec.extractLsb' 24 8 s.v0.l3), (BitVec.extractLsb' 32 8 s.v0.l3), (BitVec.extractLsb' 40 8 s.v0.l3), (BitVec.extractLsb' 48 8 s.v0.l3), (BitVec.extractLsb' 56 8 s.v0.l3), (BitVec.extractLsb' 0 8 s.v1.l0), (BitVec.extractLsb' 8 8 s.v1.l0), (BitVec.extractLsb' 16 8 s.v1.l0), (BitVec.extractLsb' 24 8 s.v1.l0), (BitVec.extractLsb' 32 8 s.v1.l0), (BitVec.extractLsb' 40 8 s.v1.l0), (BitVec.extractLsb' 48 8 s.v1.l0), (BitVec.extractLsb' 56 8 s.v1.l0), (BitVec.extractLsb' 0 8 s.v1.l1), (BitVec.extractLsb' 8 8 s.v1.l1), (BitVec.extractLsb' 16 8 s.v1.l1), (BitVec.extractLsb' 24 8 s.v1.l1), (BitVec.extractLsb' 32 8 s.v1.l1), (BitVec.extractLsb' 40 8 s.v1.l1), (BitVec.extractLsb' 48 8 s.v1.l1), (BitVec.extractLsb' 56 8 s.v1.l1), (BitVec.extractLsb' 0 8 s.v1.l2), (BitVec.extractLsb' 8 8 s.v1.l2), (BitVec.extractLsb' 16 8 s.v1.l2), (BitVec.extractLsb' 24 8 s.v1.l2), (BitVec.extractLsb' 32 8 s.v1.l2), (BitVec.extractLsb' 40 8 s.v1.l2), (BitVec.extractLsb' 48 8 s.v1.l2), (BitVec.extractLsb' 56 8 s.v1.l2), (BitVec.extractLsb' 0 8 s.v1.l3), (BitVec.extractLsb' 8 8 s.v1.l3), (BitVec.extractLsb' 16 8 s.v1.l3), (BitVec.extractLsb' 24 8 s.v1.l3), (BitVec.extractLsb' 32 8 s.v1.l3), (BitVec.extractLsb' 40 8 s.v1.l3), (BitVec.extractLsb' 48 8 s.v1.l3), (BitVec.extractLsb' 56 8 s.v1.l3), (BitVec.extractLsb' 0 8 s.mul0.l0), (BitVec.extractLsb' 8 8 s.mul0.l0), (BitVec.extractLsb' 16 8 s.mul0.l0), (BitVec.extractLsb' 24 8 s.mul0.l0), (BitVec.extractLsb' 32 8 s.mul0.l0), (BitVec.extractLsb' 40 8 s.mul0.l0), (BitVec.extractLsb' 48 8 s.mul0.l0), (BitVec.extractLsb' 56 8 s.mul0.l0), (BitVec.extractLsb' 0 8 s.mul0.l1), (BitVec.extractLsb' 8 8 s.mul0.l1), (BitVec.extractLsb' 16 8 s.mul0.l1), (BitVec.extractLsb' 24 8 s.mul0.l1), (BitVec.extractLsb' 32 8 s.mul0.l1), (BitVec.extractLsb' 40 8 s.mul0.l1), (BitVec.extractLsb' 48 8 s.mul0.l1), (BitVec.extractLsb' 56 8 s.mul0.l1), (BitVec.extractLsb' 0 8 s.mul0.l2), (BitVec.extractLsb' 8 8 s.mul0.l2), (BitVec.extractLsb' 16 8 s.mul0.l2), (BitVec.extractLsb' 24 8 s.mul0.l2), (BitVec.extractLsb' 32 8 s.mul0.l2), (BitVec.extractLsb' 40 8 s.mul0.l2), (BitVec.extractLsb' 48 8 s.mul0.l2), (BitVec.extractLsb' 56 8 s.mul0.l2), (BitVec.extractLsb' 0 8 s.mul0.l3), (BitVec.extractLsb' 8 8 s.mul0.l3), (BitVec.extractLsb' 16 8 s.mul0.l3), (BitVec.extractLsb' 24 8 s.mul0.l3), (BitVec.extractLsb' 32 8 s.mul0.l3), (BitVec.extractLsb' 40 8 s.mul0.l3), (BitVec.extractLsb' 48 8 s.mul0.l3), (BitVec.extractLsb' 56 8 s.mul0.l3), (BitVec.extractLsb' 0 8 s.mul1.l0), (BitVec.extractLsb' 8 8 s.mul1.l0), (BitVec.extractLsb' 16 8 s.mul1.l0), (BitVec.extractLsb' 24 8 s.mul1.l0), (BitVec.extractLsb' 32 8 s.mul1.l0), (BitVec.extractLsb' 40 8 s.mul1.l0), (BitVec.extractLsb' 48 8 s.mul1.l0), (BitVec.extractLsb' 56 8 s.mul1.l0), (BitVec.extractLsb' 0 8 s.mul1.l1), (BitVec.extractLsb' 8 8 s.mul1.l1), (BitVec.extractLsb' 16 8 s.mul1.l1), (BitVec.extractLsb' 24 8 s.mul1.l1), (BitVec.extractLsb' 32 8 s.mul1.l1), (BitVec.extractLsb' 40 8 s.mul1.l1), (BitVec.extractLsb' 48 8 s.mul1.l1), (BitVec.extractLsb' 56 8 s.mul1.l1), (BitVec.extractLsb' 0 8 s.mul1.l2), (BitVec.extractLsb' 8 8 s.mul1.l2), (BitVec.extractLsb' 16 8 s.mul1.l2), (BitVec.extractLsb' 24 8 s.mul1.l2), (BitVec.extractLsb' 32 8 s.mul1.l2), (BitVec.extractLsb' 40 8 s.mul1.l2), (BitVec.extractLsb' 48 8 s.mul1.l2), (BitVec.extractLsb' 56 8 s.mul1.l2), (BitVec.extractLsb' 0 8 s.mul1.l3), (BitVec.extractLsb' 8 8 s.mul1.l3), (BitVec.extractLsb' 16 8 s.mul1.l3), (BitVec.extractLsb' 24 8 s.mul1.l3), (BitVec.extractLsb' 32 8 s.mul1.l3), (BitVec.extractLsb' 40 8 s.mul1.l3), (BitVec.extractLsb' 48 8 s.mul1.l3), (BitVec.extractLsb' 56 8 s.mul1.l3), b0, b1, b2, b3, b4, b5, (0#8), (0#8), (0#8), (0#8), (0#8), (0#8), (0#8), (0#8), (0#8), (0#8), (0#8), (0#8), (0#8), (0#8), (0#8), (0#8), (0#8), (0#8), (0#8), (0#8), (0#8), (0#8), (0#8), (0#8), (0#8), (0#8), (BitVec.extractLsb' 0 8 (6#32)), (BitVec.extractLsb' 8 8 (6#32)), (BitVec.extractLsb' 16 8 (6#32)), (BitVec.extractLsb' 24 8 (6#32))]
def checkpoint7 (s : St) (b0 b1 b2 b3 b4 b5 b6 b7 b8 b9 b10 b11 b12 b13 b14 b15 b16 b17 b18 b19 b20 b21 b22 b23 b24 b25 b26 b27 b28 b29 b30 b31 : BitVec 8) : List (BitVec 8) :=
  [(BitVec.extractLsb' 0 8 s.v0.l0), (BitVec.extractLsb' 8 8 s.v0.l0), (BitVec.extractLsb' 16 8 s.v0.l0), (BitVec.extractLsb' 24 8 s.v0.l0), (BitVec.extractLsb' 32 8 s.v0.l0), (BitVec.extractLsb' 40 8 s.v0.l0), (BitVec.extractLsb' 48 8 s.v0.l0), (BitVec.extractLsb' 56 8 s.v0.l0), (BitVec.extractLsb' 0 8 s.v0.l1), (BitVec.extractLsb' 8 8 s.v0.l1), (BitVec.extractLsb' 16 8 s.v0.l1), (BitVec.extractLsb' 24 8 s.v0.l1), (BitVec.extractLsb' 32 8 s.v0.l1), (BitVec.extractLsb' 40 8 s.v0.l1), (BitVec.extractLsb' 48 8 s.v0.l1), (BitVec.extractLsb' 56 8 s.v0.l1), (BitVec.extractLsb' 0 8 s.v0.l2), (BitVec.extractLsb' 8 8 s.v0.l2), (BitVec.extractLsb' 16 8 s.v0.l2), (BitVec.extractLsb' 24 8 s.v0.l2), (BitVec.extractLsb' 32 8 s.v0.l2), (BitVec.extractLsb' 40 8 s.v0.l2), (BitVec.extractLsb' 48 8 s.v0.l2), (BitVec.extractLsb' 56 8 s.v0.l2), (BitVec.extractLsb' 0 8 s.v0.l3), (BitVec.extractLsb' 8 8 s.v0.l3), (BitVec.extractLsb' 16 8 s.v0.l3), (BitVec.extractLsb' 24 8 s.v0.l3), (BitVec.extractLsb' 32 8 s.v0.l3), (BitVec.extractLsb' 40 8 s.v0.l3), (BitVec.extractLsb' 48 8 s.v0.l3), (BitVec.extractLsb' 56 8 s.v0.l3), (BitVec.extractLsb' 0 8 s.v1.l0), (BitVec.extractLsb' 8 8 s.v1.l0), (BitVec.extractLsb' 16 8 s.v1.l0), (BitVec.extractLsb' 24 8 s.v1.l0), (BitVec.extractLsb' 32 8 s.v1.l0), (BitVec.extractLsb' 40 8 s.v1.l0), (BitVec.extractLsb' 48 8 s.v1.l0), (BitVec.extractLsb' 56 8 s.v1.l0), (BitVec.extractLsb' 0 8 s.v1.l1), (BitVec.extractLsb' 8 8 s.v1.l1), (BitVec.extractLsb' 16 8 s.v1.l1), (BitVec.extractLsb' 24 8 s.v1.l1), (BitVec.extractLsb' 32 8 s.v1.l1), (BitVec.extractLsb' 40 8 s.v1.l1), (BitVec.extractLsb' 48 8 s.v1.l1), (BitVec.extractLsb' 56 8 s.v1.l1), (BitVec.extractLsb' 0 8 s.v1.l2), (BitVec.extractLsb' 8 8 s.v1.l2), (BitVec.extractLsb' 16 8 s.v1.l2), (BitVec.extractLsb' 24 8 s.v1.l2), (BitVec.extractLsb' 32 8 s.v1.l2), (BitVec.extractLsb' 40 8 s.v1.l2), (BitVec.extractLsb' 48 8 s.v1.l2), (BitVec.extractLsb' 56 8 s.v1.l2), (BitVec.extractLsb' 0 8 s.v1.l3), (BitVec.extractLsb' 8 8 s.v1.l3), (BitVec.extractLsb' 16 8 s.v1.l3), (BitVec.extractLsb' 24 8 s.v1.l3), (BitVec.extractLsb' 32 8 s.v1.l3), (BitVec.extractLsb' 40 8 s.v1.l3), (BitVec.extractLsb' 48 8 s.v1.l3), (BitVec.extractLsb' 56 8 s.v1.l3), (BitVec.extractLsb' 0 8 s.mul0.l0), (BitVec.extractLsb' 8 8 s.mul0.l0), (BitVec.extractLsb' 16 8 s.mul0.l0), (BitVec.extractLsb' 24 8 s.mul0.l0), (BitVec.extractLsb' 32 8 s.mul0.l0), (BitVec.extractLsb' 40 8 s.mul0.l0), (BitVec.extractLsb' 48 8 s.mul0.l0), (BitVec.extractLsb' 56 8 s.mul0.l0), (BitVec.extractLsb' 0 8 s.mul0.l1), (BitVec.extractLsb' 8 8 s.mul0.l1), (BitVec.extractLsb' 16 8 s.mul0.l1), (BitVec.extractLsb' 24 8 s.mul0.l1), (BitVec.extractLsb' 32 8 s.mul0.l1), (BitVec.extractLsb' 40 8 s.mul0.l1), (BitVec.extractLsb' 48 8 s.mul0.l1), (BitVec.extractLsb' 56 8 s.mul0.l1), (BitVec.extractLsb' 0 8 s.mul0.l2), (BitVec.extractLsb' 8 8 s.mul0.l2), (BitVec.extractLsb' 16 8 s.mul0.l2), (BitVec.extractLsb' 24 8 s.mul0.l2), (BitVec.extractLsb' 32 8 s.mul0.l2), (BitVec.extractLsb' 40 8 s.mul0.l2), (BitVec.extractLsb' 48 8 s.mul0.l2), (BitVec.extractLsb' 56 8 s.mul0.l2), (BitVec.extractLsb' 0 8 s.mul0.l3), (BitVec.extractLsb' 8 8 s.mul0.l3), (BitVec.extractLsb' 16 8 s.mul0.l3), (BitVec.extractLsb' 24 8 s.mul0.l3), (BitVec.extractLsb' 32 8 s.mul0.l3), (BitVec.extractLsb' 40 8 s.mul0.l3), (BitVec.extractLsb' 48 8 s.mul0.l3), (BitVec.extractLsb' 56 8 s.mul0.l3), (BitVec.extractLsb' 0 8 s.mul1.l0), (BitVec.extractLsb' 8 8 s.mul1.l0), (BitVec.extractLsb' 16 8 s.mul1.l0), (BitVec.extractLsb' 24 8 s.mul1.l0), (BitVec.extractLsb' 32 8 s.mul1.l0), (BitVec.extractLsb' 40 8 s.mul1.l0), (BitVec.extractLsb' 48 8 s.mul1.l0), (BitVec.extractLsb' 56 8 s.mul1.l0), (BitVec.extractLsb' 0 8 s.mul1.l1), (BitVec.extractLsb' 8 8 s.mul1.l1), (BitVec.extractLsb' 16 8 s.mul1.l1), (BitVec.extractLsb' 24 8 s.mul1.l1), (BitVec.extractLsb' 32 8 s.mul1.l1), (BitVec.extractLsb' 40 8 s.mul1.l1), (BitVec.extractLsb' 48 8 s.mul1.l1), (BitVec.extractLsb' 56 8 s.mul1.l1), (BitVec.extractLsb' 0 8 s.mul1.l2), (BitVec.extractLsb' 8 8 s.mul1.l2), (BitVec.extractLsb' 16 8 s.mul1.l2), (BitVec.extractLsb' 24 8 s.mul1.l2), (BitVec.extractLsb' 32 8 s.mul1.l2), (BitVec.extractLsb' 40 8 s.mul1.l2), (BitVec.extractLsb' 48 8 s.mul1.l2), (BitVec.extractLsb' 56 8 s.mul1.l2), (BitVec.extractLsb' 0 8 s.mul1.l3), (BitVec.extractLsb' 8 8 s.mul1.l3), (BitVec.extractLsb' 16 8 s.mul1.l3), (BitVec.extractLsb' 24 8 s.mul1.l3), (BitVec.extractLsb' 32 8 s.mul1.l3), (BitVec.extractLsb' 40 8 s.mul1.l3), (BitVec.extractLsb' 48 8 s.mul1.l3), (BitVec.extractLsb' 56 8 s.mul1.l3), b0, b1, b2, b3, b4, b5, b6, (0#8), (0#8), (0#8), (0#8), (0#8), (0#8), (0#8), (0#8), (0#8), (0#8), (0#8), (0#8), (0#8), (0#8), (0#8), (0#8), (0#8), (0#8), (0#8), (0#8), (0#8), (0#8), (0#8), (0#8), (0#8), (BitVec.extractLsb' 0 8 (7#32)), (BitVec.extractLsb' 8 8 (7#32)), (BitVec.extractLsb' 16 8 (7#32)), (BitVec.extractLsb' 24 8 (7#32))]
def checkpoint8 (s : St) (b0 b1 b2 b3 b4 b5 b6 b7 b8 b9 b10 b11 b12 b13 b14 b15 b16 b17 b18 b19 b20 b21 b22 b23 b24 b25 b26 b27 b28 b29 b30 b31 : BitVec 8) : List (BitVec 8) :=
  [(BitVec.extractLsb' 0 8 s.v0.l0), (BitVec.extractLsb' 8 8 s.v0.l0), (BitVec.extractLsb' 16 8 s.v0.l0), (BitVec.extractLsb' 24 8 s.v0.l0), (BitVec.extractLsb' 32 8 s.v0.l0), (BitVec.extractLsb' 40 8 s.v0.l0), (BitVec.extractLsb' 48 8 s.v0.l0), (BitVec.extractLsb' 56 8 s.v0.l0), (BitVec.extractLsb' 0 8 s.v0.l1), (BitVec.extractLsb' 8 8 s.v0.l1), (BitVec.extractLsb' 16 8 s.v0.l1), (BitVec.extractLsb' 24 8 s.v0.l1), (BitVec.extractLsb' 32 8 s.v0.l1), (BitVec.extractLsb' 40 8 s.v0.l1), (BitVec.extractLsb' 48 8 s.v0.l1), (BitVec.extractLsb' 56 8 s.v0.l1), (BitVec.extractLsb' 0 8 s.v0.l2), (BitVec.extractLsb' 8 8 s.v0.l2), (BitVec.extractLsb' 16 8 s.v0.l2), (BitVec.extractLsb' 24 8 s.v0.l2), (BitVec.extractLsb' 32 8 s.v0.l2), (BitVec.extractLsb' 40 8 s.v0.l2), (BitVec.extractLsb' 48 8 s.v0.l2), (BitVec.extractLsb' 56 8 s.v0.l2), (BitVec.extractLsb' 0 8 s.v0.l3), (BitVec.extractLsb' 8 8 s.v0.l3), (BitVec.extractLsb' 16 8 s.v0.l3), (BitVec.extractLsb' 24 8 s.v0.l3), (BitVec.extractLsb' 32 8 s.v0.l3), (BitVec.extractLsb' 40 8 s.v0.l3), (BitVec.extractLsb' 48 8 s.v0.l3), (BitVec.extractLsb' 56 8 s.v0.l3), (BitVec.extractLsb' 0 8 s.v1.l0), (BitVec.extractLsb' 8 8 s.v1.l0), (BitVec.extractLsb' 16 8 s.v1.l0), (BitVec.extractLsb' 24 8 s.v1.l0), (BitVec.extractLsb' 32 8 s.v1.l0), (BitVec.extractLsb' 40 8 s.v1.l0), (BitVec.extractLsb' 48 8 s.v1.l0), (BitVec.extractLsb' 56 8 s.v1.l0), (BitVec.extractLsb' 0 8 s.v1.l1), (BitVec.extractLsb' 8 8 s.v1.l1), (BitVec.extractLsb' 16 8 s.v1.l1), (BitVec.extractLsb' 24 8 s.v1.l1), (BitVec.extractLsb' 32 8 s.v1.l1), (BitVec.extractLsb' 40 8 s.v1.l1), (BitVec.extractLsb' 48 8 s.v1.l1), (BitVec.extractLsb' 56 8 s.v1.l1), (BitVec.extractLsb' 0 8 s.v1.l2), (BitVec.extractLsb' 8 8 s.v1.l2), (BitVec.extractLsb' 16 8 s.v1.l2), (BitVec.extractLsb' 24 8 s.v1.l2), (BitVec.extractLsb' 32 8 s.v1.l2), (BitVec.extractLsb' 40 8 s.v1.l2), (BitVec.extractLsb' 48 8 s.v1.l2), (BitVec.extractLsb' 56 8 s.v1.l2), (BitVec.extractLsb' 0 8 s.v1.l3), (BitVec.extractLsb' 8 8 s.v1.l3), (BitVec.extractLsb' 16 8 s.v1.l3), (BitVec.extractLsb' 24 8 s.v1.l3), (BitVec.extractLsb' 32 8 s.v1.l3), (BitVec.extractLsb' 40 8 s.v1.l3), (BitVec.extractLsb' 48 8 s.v1.l3), (BitVec.extractLsb' 56 8 s.v1.l3), (BitVec.extractLsb' 0 8 s.mul0.l0), (BitVec.extractLsb' 8 8 s.mul0.l0), (BitVec.extractLsb' 16 8 s.mul0.l0), (BitVec.extractLsb' 24 8 s.mul0.l0), (BitVec.extractLsb' 32 8 s.mul0.l0), (BitVec.extractLsb' 40 8 s.mul0.l0), (BitVec.extractLsb' 48 8 s.mul0.l0), (BitVec.extractLsb' 56 8 s.mul0.l0), (BitVec.extractLsb' 0 8 s.mul0.l1), (BitVec.extractLsb' 8 8 s.mul0.l1), (BitVec.extractLsb' 16 8 s.mul0.l1), (BitVec.extractLsb' 24 8 s.mul0.l1), (BitVec.extractLsb' 32 8 s.mul0.l1), (BitVec.extractLsb' 40 8 s.mul0.l1), (BitVec.extractLsb' 48 8 s.mul0.l1), (BitVec.extractLsb' 56 8 s.mul0.l1), (BitVec.extractLsb' 0 8 s.mul0.l2), (BitVec.extractLsb' 8 8 s.mul0.l2), (BitVec.extractLsb' 16 8 s.mul0.l2), (BitVec.extractLsb' 24 8 s.mul0.l2), (BitVec.extractLsb' 32 8 s.mul0.l2), (BitVec.extractLsb' 40 8 s.mul0.l2), (BitVec.extractLsb' 48 8 s.mul0.l2), (BitVec.extractLsb' 56 8 s.mul0.l2), (BitVec.extractLsb' 0 8 s.mul0.l3), (BitVec.extractLsb' 8 8 s.mul0.l3), (BitVec.extractLsb' 16 8 s.mul0.l3), (BitVec.extractLsb' 24 8 s.mul0.l3), (BitVec.extractLsb' 32 8 s.mul0.l3), (BitVec.extractLsb' 40 8 s.mul0.l3), (BitVec.extractLsb' 48 8 s.mul0.l3), (BitVec.extractLsb' 56 8 s.mul0.l3), (BitVec.extractLsb' 0 8 s.mul1.l0), (BitVec.extractLsb' 8 8 s.mul1.l0), (BitVec.extractLsb' 16 8 s.mul1.l0), (BitVec.extractLsb' 24 8 s.mul1.l0), (BitVec.extractLsb' 32 8 s.mul1.l0), (BitVec.extractLsb' 40 8 s.mul1.l0), (BitVec.extractLsb' 48 8 s.mul1.l0), (BitVec.extractLsb' 56 8 s.mul1.l0), (BitVec.extractLsb' 0 8 s.mul1.l1), (BitVec.extractLsb' 8 8 s.mul1.l1), (BitVec.extractLsb' 16 8 s.mul1.l1), (BitVec.extractLsb' 24 8 s.mul1.l1), (BitVec.extractLsb' 32 8 s.mul1.l1), (BitVec.extractLsb' 40 8 s.mul1.l1), (BitVec.extractLsb' 48 8 s.mul1.l1), (BitVec.extractLsb' 56 8 s.mul1.l1), (BitVec.extractLsb' 0 8 s.mul1.l2), (BitVec.extractLsb' 8 8 s.mul1.l2), (BitVec.extractLsb' 16 8 s.mul1.l2), (BitVec.extractLsb' 24 8 s.mul1.l2), (BitVec.extractLsb' 32 8 s.mul1.l2), (BitVec.extractLsb' 40 8 s.mul1.l2), (BitVec.extractLsb' 48 8 s.mul1.l2), (BitVec.extractLsb' 56 8 s.mul1.l2), (BitVec.extractLsb' 0 8 s.mul1.l3), (BitVec.extractLsb' 8 8 s.mul1.l3), (BitVec.extractLsb' 16 8 s.mul1.l3), (BitVec.extractLsb' 24 8 s.mul1.l3), (BitVec.extractLsb' 32 8 s.mul1.l3), (BitVec.extractLsb' 40 8 s.mul1.l3), (BitVec.extractLsb' 48 8 s.mul1.l3), (BitVec.extractLsb' 56 8 s.mul1.l3), b0, b1, b2, b3, b4, b5, b6, b7, (0#8), (0#8), (0#8), (0#8), (0#8), (0#8), (0#8), (0#8), (0#8), (0#8), (0#8), (0#8), (0#8), (0#8), (0#8), (0#8), (0#8), (0#8), (0#8), (0#8), (0#8), (0#8), (0#8), (0#8), (BitVec.extractLsb' 0 8 (8#32)), (BitVec.extractLsb' 8 8 (8#32)), (BitVec.extractLsb' 16 8 (8#32)), (BitVec.extractLsb' 24 8 (8#32))]
def checkpoint9 (s : St) (b0 b1 b2 b3 b4 b5 b6 b7 b8 b9 b10 b11 b12 b13 b14 b15 b16 b17 b18 b19 b20 b21 b22 b23 b24 b25 b26 b27 b28 b29 b30 b31 : BitVec 8) : List (BitVec 8) :=
  [(BitVec.extractLsb' 0 8 s.v0.l0), (BitVec.extractLsb' 8 8 s.v0.l0), (BitVec.extractLsb' 16 8 s.v0.l0), (BitVec.extractLsb' 24 8 s.v0.l0), (BitVec.extractLsb' 32 8 s.v0.l0), (BitVec.extractLsb' 40 8 s.v0.l0), (BitVec.extractLsb' 48 8 s.v0.l0), (BitVec.extractLsb' 56 8 s.v0.l0), (BitVec.extractLsb' 0 8 s.v0.l1), (BitVec.extractLsb' 8 8 s.v0.l1), (BitVec.extractLsb' 16 8 s.v0.l1), (BitVec.extractLsb' 24 8 s.v0.l1), (BitVec.extractLsb' 32 8 s.v0.l1), (BitVec.extractLsb' 40 8 s.v0.l1), (BitVec.extractLsb' 48 8 s.v0.l1), (BitVec.extractLsb' 56 8 s.v0.l1), (BitVec.extractLsb' 0 8 s.v0.l2), (BitVec.extractLsb' 8 8 s.v0.l2), (BitVec.extractLsb' 16 8 s.v0.l2), (BitVec.extractLsb' 24 8 s.v0.l2), (BitVec.extractLsb' 32 8 s.v0.l2), (BitVec.extractLsb' 40 8 s.v0.l2), (BitVec.extractLsb' 48 8 s.v0.l2), (BitVec.extractLsb' 56 8 s.v0.l2), (BitVec.extractLsb' 0 8 s.v0.l3), (BitVec.extractLsb' 8 8 s.v0.l3), (BitVec.extractLsb' 16 8 s.v0.l3), (BitVec.extractLsb' 24 8 s.v0.l3), (BitVec.extractLsb' 32 8 s.v0.l3), (BitVec.extractLsb' 40 8 s.v0.l3), (BitVec.extractLsb' 48 8 s.v0.l3), (BitVec.extractLsb' 56 8 s.v0.l3), (BitVec.extractLsb' 0 8 s.v1.l0), (BitVec.extractLsb' 8 8 s.v1.l0), (BitVec.extractLsb' 16 8 s.v1.l0), (BitVec.extractLsb' 24 8 s.v1.l0), (BitVec.extractLsb' 32 8 s.v1.l0), (BitVec.extractLsb' 40 8 s.v1.l0), (BitVec.extractLsb' 48 8 s.v1.l0), (BitVec.extractLsb' 56 8 s.v1.l0), (BitVec.extractLsb' 0 8 s.v1.l1), (BitVec.extractLsb' 8 8 s.v1.l1), (BitVec.extractLsb' 16 8 s.v1.l1), (BitVec.extractLsb' 24 8 s.v1.l1), (BitVec.extractLsb' 32 8 s.v1.l1), (BitVec.extractLsb' 40 8 s.v1.l1), (BitVec.extractLsb' 48 8 s.v1.l1), (BitVec.extractLsb' 56 8 s.v1.l1), (BitVec.extractLsb' 0 8 s.v1.l2), (BitVec.extractLsb' 8 8 s.v1.l2), (BitVec.extractLsb' 16 8 s.v1.l2), (BitVec.extractLsb' 24 8 s.v1.l2), (BitVec.extractLsb' 32 8 s.v1.l2), (BitVec.extractLsb' 40 8 s.v1.l2), (BitVec.extractLsb' 48 8 s.v1.l2), (BitVec.extractLsb' 56 8 s.v1.l2), (BitVec.extractLsb' 0 8 s.v1.l3), (BitVec.extractLsb' 8 8 s.v1.l3), (BitVec.extractLsb' 16 8 s.v1.l3), (BitVec.extractLsb' 24 8 s.v1.l3), (BitVec.extractLsb' 32 8 s.v1.l3), (BitVec.extractLsb' 40 8 s.v1.l3), (BitVec.extractLsb' 48 8 s.v1.l3), (BitVec.extractLsb' 56 8 s.v1.l3), (BitVec.extractLsb' 0 8 s.mul0.l0), (BitVec.extractLsb' 8 8 s.mul0.l0), (BitVec.extractLsb' 16 8 s.mul0.l0), (BitVec.extractLsb' 24 8 s.mul0.l0), (BitVec.extractLsb' 32 8 s.mul0.l0), (BitVec.extractLsb' 40 8 s.mul0.l0), (BitVec.extractLsb' 48 8 s.mul0.l0), (BitVec.extractLsb' 56 8 s.mul0.l0), (BitVec.extractLsb' 0 8 s.mul0.l1), (BitVec.extractLsb' 8 8 s.mul0.l1), (BitVec.extractLsb' 16 8 s.mul0.l1), (BitVec.extractLsb' 24 8 s.mul0.l1), (BitVec.extractLsb' 32 8 s.mul0.l1), (BitVec.extractLsb' 40 8 s.mul0.l1), (BitVec.extractLsb' 48 8 s.mul0.l1), (BitVec.extractLsb' 56 8 s.mul0.l1), (BitVec.extractLsb' 0 8 s.mul0.l2), (BitVec.extractLsb' 8 8 s.mul0.l2), (BitVec.extractLsb' 16 8 s.mul0.l2), (BitVec.extractLsb' 24 8 s.mul0.l2), (BitVec.extractLsb' 32 8 s.mul0.l2), (BitVec.extractLsb' 40 8 s.mul0.l2), (BitVec.extractLsb' 48 8 s.mul0.l2), (BitVec.extractLsb' 56 8 s.mul0.l2), (BitVec.extractLsb' 0 8 s.mul0.l3), (BitVec.extractLsb' 8 8 s.mul0.l3), (BitVec.extractLsb' 16 8 s.mul0.l3), (BitVec.extractLsb' 24 8 s.mul0.l3), (BitVec.extractLsb' 32 8 s.mul0.l3), (BitVec.extractLsb' 40 8 s.mul0.l3), (BitVec.extractLsb' 48 8 s.mul0.l3), (BitVec.extractLsb' 56 8 s.mul0.l3), (BitVec.extractLsb' 0 8 s.mul1.l0), (BitVec.extractLsb' 8 8 s.mul1.l0), (BitVec.extractLsb' 16 8 s.mul1.l0), (BitVec.extractLsb' 24 8 s.mul1.l0), (BitVec.extractLsb' 32 8 s.mul1.l0), (BitVec.extractLsb' 40 8 s.mul1.l0), (BitVec.extractLsb' 48 8 s.mul1.l0), (BitVec.extractLsb' 56 8 s.mul1.l0), (BitVec.extractLsb' 0 8 s.mul1.l1), (BitVec.extractLsb' 8 8 s.mul1.l1), (BitVec.extractLsb' 16 8 s.mul1.l1), (BitVec.extractLsb' 24 8 s.mul1.l1), (BitVec.extractLsb' 32 8 s.mul1.l1), (BitVec.extractLsb' 40 8 s.mul1.l1), (BitVec.extractLsb' 48 8 s.mul1.l1), (BitVec.extractLsb' 56 8 s.mul1.l1), (BitVec.extractLsb' 0 8 s.mul1.l2), (BitVec.extractLsb' 8 8 s.mul1.l2), (BitVec.extractLsb' 16 8 s.mul1.l2), (BitVec.extractLsb' 24 8 s.mul1.l2), (BitVec.extractLsb' 32 8 s.mul1.l2), (BitVec.extractLsb' 40 8 s.mul1.l2), (BitVec.extractLsb' 48 8 s.mul1.l2), (BitVec.extractLsb' 56 8 s.mul1.l2), (BitVec.extractLsb' 0 8 s.mul1.l3), (BitVec.extractLsb' 8 8 s.mul1.l3), (BitVec.extractLsb' 16 8 s.mul1.l3), (BitVec.extractLsb' 24 8 s.mul1.l3), (BitVec.extractLsb' 32 8 s.mul1.l3), (BitVec.extractLsb' 40 8 s.mul1.l3), (BitVec.extractLsb' 48 8 s.mul1.l3), (BitVec.extractLsb' 56 8 s.mul1.l3), b0, b1, b2, b3, b4, b5, b6, b7, b8, (0#8), (0#8), (0#8), (0#8), (0#8), (0#8), (0#8), (0#8), (0#8), (0#8), (0#8), (0#8), (0#8), (0#8), (0#8), (0#8), (0#8), (0#8), (0#8), (0#8), (0#8), (0#8), (0#8), (BitVec.extractLsb' 0 8 (9#32)), (BitVec.extractLsb' 8 8 (9#32)), (BitVec.extractLsb' 16 8 (9#32)), (BitVec.extractLsb' 24 8 (9#32))]
def checkpoint10 (s : St) (b0 b1 b2 b3 b4 b5 b6 b7 b8 b9 b10 b11 b12 b13 b14 b15 b16 b17 b18 b19 b20 b21 b22 b23 b24 b25 b26 b27 b28 b29 b30 b31 : BitVec 8) : List (BitVec 8) :=
  [(BitVec.extractLsb' 0 8 s.v0.l0), (BitVec.extractLsb' 8 8 s.v0.l0), (BitVec.extractLsb' 16 8 s.v0.l0), (BitVec.extractLsb' 24 8 s.v0.l0), (BitVec.extractLsb' 32 8 s.v0.l0), (BitVec.extractLsb' 40 8 s.v0.l0), (BitVec.extractLsb' 48 8 s.v0.l0), (BitVec.extractLsb' 56 8 s.v0.l0), (BitVec.extractLsb' 0 8 s.v0.l1), (BitVec.extractLsb' 8 8 s.v0.l1), (BitVec.extractLsb' 16 8 s.v0.l1), (BitVec.extractLsb' 24 8 s.v0.l1), (BitVec.extractLsb' 32 8 s.v0.l1), (BitVec.extractLsb' 40 8 s.v0.l1), (BitVec.extractLsb' 48 8 s.v0.l1), (BitVec.extractLsb' 56 8 s.v0.l1), (BitVec.extractLsb' 0 8 s.v0.l2), (BitVec.extractLsb' 8 8 s.v0.l2), (BitVec.extractLsb' 16 8 s.v0.l2), (BitVec.extractLsb' 24 8 s.v0.l2), (BitVec.extractLsb' 32 8 s.v0.l2), (BitVec.extractLsb' 40 8 s.v0.l2), (BitVec.extractLsb' 48 8 s.v0.l2), (BitVec.extractLsb' 56 8 s.v0.l2), (BitVec.extractLsb' 0 8 s.v0.l3), (BitVec.extractLsb' 8 8 s.v0.l3), (BitVec.extractLsb' 16 8 s.v0.l3), (BitVec.extractLsb' 24 8 s.v0.l3), (BitVec.extractLsb' 32 8 s.v0.l3), (BitVec.extractLsb' 40 8 s.v0.l3), (BitVec.extractLsb' 48 8 s.v0.l3), (BitVec.extractLsb' 56 8 s.v0.l3), (BitVec.extractLsb' 0 8 s.v1.l0), (BitVec.extractLsb' 8 8 s.v1.l0), (BitVec.extractLsb' 16 8 s.v1.l0), (BitVec.extractLsb' 24 8 s.v1.l0), (BitVec.extractLsb' 32 8 s.v1.l0), (BitVec.extractLsb' 40 8 s.v1.l0), (BitVec.extractLsb' 48 8 s.v1.l0), (BitVec.extractLsb' 56 8 s.v1.l0), (BitVec.extractLsb' 0 8 s.v1.l1), (BitVec.extractLsb' 8 8 s.v1.l1), (BitVec.extractLsb' 16 8 s.v1.l1), (BitVec.extractLsb' 24 8 s.v1.l1), (BitVec.extractLsb' 32 8 s.v1.l1), (BitVec.extractLsb' 40 8 s.v1.l1), (BitVec.extractLsb' 48 8 s.v1.l1), (BitVec.extractLsb' 56 8 s.v1.l1), (BitVec.extractLsb' 0 8 s.v1.l2), (BitVec.extractLsb' 8 8 s.v1.l2), (BitVec.extractLsb' 16 8 s.v1.l2), (BitVec.extractLsb' 24 8 s.v1.l2), (BitVec.extractLsb' 32 8 s.v1.l2), (BitVec.extractLsb' 40 8 s.v1.l2), (BitVec.extractLsb' 48 8 s.v1.l2), (BitVec.extractLsb' 56 8 s.v1.l2), (BitVec.extractLsb' 0 8 s.v1.l3), (BitVec.extractLsb' 8 8 s.v1.l3), (BitVec.extractLsb' 16 8 s.v1.l3), (BitVec.extractLsb' 24 8 s.v1.l3), (BitVec.extractLsb' 32 8 s.v1.l3), (BitVec.extractLsb' 40 8 s.v1.l3), (BitVec.extractLsb' 48 8 s.v1.l3), (BitVec.extractLsb' 56 8 s.v1.l3), (BitVec.extractLsb' 0 8 s.mul0.l0), (BitVec.extractLsb' 8 8 s.mul0.l0), (BitVec.extractLsb' 16 8 s.mul0.l0), (BitVec.extractLsb' 24 8 s.mul0.l0), (BitVec.extractLsb' 32 8 s.mul0.l0), (BitVec.extractLsb' 40 8 s.mul0.l0), (BitVec.extractLsb' 48 8 s.mul0.l0), (BitVec.extractLsb' 56 8 s.mul0.l0), (BitVec.extractLsb' 0 8 s.mul0.l1), (BitVec.extractLsb' 8 8 s.mul0.l1), (BitVec.extractLsb' 16 8 s.mul0.l1), (BitVec.extractLsb' 24 8 s.mul0.l1), (BitVec.extractLsb' 32 8 s.mul0.l1), (BitVec.extractLsb' 40 8 s.mul0.l1), (BitVec.extractLsb' 48 8 s.mul0.l1), (BitVec.extractLsb' 56 8 s.mul0.l1), (BitVec.extractLsb' 0 8 s.mul0.l2), (BitVec.extractLsb' 8 8 s.mul0.l2), (BitVec.extractLsb' 16 8 s.mul0.l2), (BitVec.extractLsb' 24 8 s.mul0.l2), (BitVec.extractLsb' 32 8 s.mul0.l2), (BitVec.extractLsb' 40 8 s.mul0.l2), (BitVec.extractLsb' 48 8 s.mul0.l2), (BitVec.extractLsb' 56 8 s.mul0.l2), (BitVec.extractLsb' 0 8 s.mul0.l3), (BitVec.extractLsb' 8 8 s.mul0.l3), (BitVec.extractLsb' 16 8 s.mul0.l3), (BitVec.extractLsb' 24 8 s.mul0.l3), (BitVec.extractLsb' 32 8 s.mul0.l3), (BitVec.extractLsb' 40 8 s.mul0.l3), (BitVec.extractLsb' 48 8 s.mul0.l3), (BitVec.extractLsb' 56 8 s.mul0.l3), (BitVec.extractLsb' 0 8 s.mul1.l0), (BitVec.extractLsb' 8 8 s.mul1.l0), (BitVec.extractLsb' 16 8 s.mul1.l0), (BitVec.extractLsb' 24 8 s.mul1.l0), (BitVec.extractLsb' 32 8 s.mul1.l0), (BitVec.extractLsb' 40 8 s.mul1.l0), (BitVec.extractLsb' 48 8 s.mul1.l0), (BitVec.extractLsb' 56 8 s.mul1.l0), (BitVec.extractLsb' 0 8 s.mul1.l1), (BitVec.extractLsb' 8 8 s.mul1.l1), (BitVec.extractLsb' 16 8 s.mul1.l1), (BitVec.extractLsb' 24 8 s.mul1.l1), (BitVec.extractLsb' 32 8 s.mul1.l1), (BitVec.extractLsb' 40 8 s.mul1.l1), (BitVec.extractLsb' 48 8 s.mul1.l1), (BitVec.extractLsb' 56 8 s.mul1.l1), (BitVec.extractLsb' 0 8 s.mul1.l2), (BitVec.extractLsb' 8 8 s.mul1.l2), (BitVec.extractLsb' 16 8 s.mul1.l2), (BitVec.extractLsb' 24 8 s.mul1.l2), (BitVec.extractLsb' 32 8 s.mul1.l2), (BitVec.extractLsb' 40 8 s.mul1.l2), (BitVec.extractLsb' 48 8 s.mul1.l2), (BitVec.extractLsb' 56 8 s.mul1.l2), (BitVec.extractLsb' 0 8 s.mul1.l3), (BitVec.extractLsb' 8 8 s.mul1.l3), (BitVec.extractLsb' 16 8 s.mul1.l3), (BitVec.extractLsb' 24 8 s.mul1.l3), (BitVec.extractLsb' 32 8 s.mul1.l3), (BitVec.extractLsb' 40 8 s.mul1.l3), (BitVec.extractLsb' 48 8 s.mul1.l3), (BitVec.extractLsb' 56 8 s.mul1.l3), b0, b1, b2, b3, b4, b5, b6, b7, b8, b9, (0#8), (0#8), (0#8), (0#8), (0#8), (0#8), (0#8), (0#8), (0#8), (0#8), (0#8), (0#8), (0#8), (0#8), (0#8), (0#8), (0#8), (0#8), (0#8), (0#8), (0#8), (0#8), (BitVec.extractLsb' 0 8 (10#32)), (BitVec.extractLsb' 8 8 (10#32)), (BitVec.extractLsb' 16 8 (10#32)), (BitVec.extractLsb' 24 8 (10#32))]
def checkpoint11 (s : St) (b0 b1 b2 b3 b4 b5 b6 b7 b8 b9 b10 b11 b12 b13 b14 b15 b16 b17 b18 b19 b20 b21 b22 b23 b24 b25 b26 b27 b28 b29 b30 b31 : BitVec 8) : List (BitVec 8) :=
  [(BitVec.extractLsb' 0 8 s.v0.l0), (BitVec.extractLsb' 8 8 s.v0.l0), (BitVec.extractLsb' 16 8 s.v0.l0), (BitVec.extractLsb' 24 8 s.v0.l0), (BitVec.extractLsb' 32 8 s.v0.l0), (BitVec.extractLsb' 40 8 s.v0.l0), (BitVec.extractLsb' 48 8 s.v0.l0), (BitVec.extractLsb' 56 8 s.v0.l0), (BitVec.extractLsb' 0 8 s.v0.l1), (BitVec.extractLsb' 8 8 s.v0.l1), (BitVec.extractLsb' 16 8 s.v0.l1), (BitVec.extractLsb' 24 8 s.v0.l1), (BitVec.extractLsb' 32 8 s.v0.l1), (BitVec.extractLsb' 40 8 s.v0.l1), (BitVec.extractLsb' 48 8 s.v0.l1), (BitVec.extractLsb' 56 8 s.v0.l1), (BitVec.extractLsb' 0 8 s.v0.l2), (BitVec.extractLsb' 8 8 s.v0.l2), (BitVec.extractLsb' 16 8 s.v0.l2), (BitVec.extractLsb' 24 8 s.v0.l2), (BitVec.extractLsb' 32 8 s.v0.l2), (BitVec.extractLsb' 40 8 s.v0.l2), (BitVec.extractLsb' 48 8 s.v0.l2), (BitVec.extractLsb' 56 8 s.v0.l2), (BitVec.extractLsb' 0 8 s.v0.l3), (BitVec.extractLsb' 8 8 s.v0.l3), (BitVec.extractLsb' 16 8 s.v0.l3), (BitVec.extractLsb' 24 8 s.v0.l3), (BitVec.extractLsb' 32 8 s.v0.l3), (BitVec.extractLsb' 40 8 s.v0.l3), (BitVec.extractLsb' 48 8 s.v0.l3), (BitVec.extractLsb' 56 8 s.v0.l3), (BitVec.extractLsb' 0 8 s.v1.l0), (BitVec.extractLsb' 8 8 s.v1.l0), (BitVec.extractLsb' 16 8 s.v1.l0), (BitVec.extractLsb' 24 8 s.v1.l0), (BitVec.extractLsb' 32 8 s.v1.l0), (BitVec.extractLsb' 40 8 s.v1.l0), (BitVec.extractLsb' 48 8 s.v1.l0), (BitVec.extractLsb' 56 8 s.v1.l0), (BitVec.extractLsb' 0 8 s.v1.l1), (BitVec.extractLsb' 8 8 s.v1.l1), (BitVec.extractLsb' 16 8 s.v1.l1), (BitVec.extractLsb' 24 8 s.v1.l1), (BitVec.extractLsb' 32 8 s.v1.l1), (BitVec.extractLsb' 40 8 s.v1.l1), (BitVec.extractLsb' 48 8 s.v1.l1), (BitVec.extractLsb' 56 8 s.v1.l1), (BitVec.extractLsb' 0 8 s.v1.l2), (BitVec.extractLsb' 8 8 s.v1.l2), (BitVec.extractLsb' 16 8 s.v1.l2), (BitVec.extractLsb' 24 8 s.v1.l2), (BitVec.extractLsb' 32 8 s.v1.l2), (BitVec.extractLsb' 40 8 s.v1.l2), (BitVec.extractLsb' 48 8 s.v1.l2), (BitVec.extractLsb' 56 8 s.v1.l2), (BitVec.extractLsb' 0 8 s.v1.l3), (BitVec.extractLsb' 8 8 s.v1.l3), (BitVec.extractLsb' 16 8 s.v1.l3), (BitVec.extractLsb' 24 8 s.v1.l3), (BitVec.extractLsb' 32 8 s.v1.l3), (BitVec.extractLsb' 40 8 s.v1.l3), (BitVec.extractLsb' 48 8 s.v1.l3), (BitVec.extractLsb' 56 8 s.v1.l3), (BitVec.extractLsb' 0 8 s.mul0.l0), (BitVec.extractLsb' 8 8 s.mul0.l0), (BitVec.extractLsb' 16 8 s.mul0.l0), (BitVec.extractLsb' 24 8 s.mul0.l0), (BitVec.extractLsb' 32 8 s.mul0.l0), (BitVec.extractLsb' 40 8 s.mul0.l0), (BitVec.extractLsb' 48 8 s.mul0.l0), (BitVec.extractLsb' 56 8 s.mul0.l0), (BitVec.extractLsb' 0 8 s.mul0.l1), (BitVec.extractLsb' 8 8 s.mul0.l1), (BitVec.extractLsb' 16 8 s.mul0.l1), (BitVec.extractLsb' 24 8 s.mul0.l1), (BitVec.extractLsb' 32 8 s.mul0.l1), (BitVec.extractLsb' 40 8 s.mul0.l1), (BitVec.extractLsb' 48 8 s.mul0.l1), (BitVec.extractLsb' 56 8 s.mul0.l1), (BitVec.extractLsb' 0 8 s.mul0.l2), (BitVec.extractLsb' 8 8 s.mul0.l2), (BitVec.extractLsb' 16 8 s.mul0.l2), (BitVec.extractLsb' 24 8 s.mul0.l2), (BitVec.extractLsb' 32 8 s.mul0.l2), (BitVec.extractLsb' 40 8 s.mul0.l2), (BitVec.extractLsb' 48 8 s.mul0.l2), (BitVec.extractLsb' 56 8 s.mul0.l2), (BitVec.extractLsb' 0 8 s.mul0.l3), (BitVec.extractLsb' 8 8 s.mul0.l3), (BitVec.extractLsb' 16 8 s.mul0.l3), (BitVec.extractLsb' 24 8 s.mul0.l3), (BitVec.extractLsb' 32 8 s.mul0.l3), (BitVec.extractLsb' 40 8 s.mul0.l3), (BitVec.extractLsb' 48 8 s.mul0.l3), (BitVec.extractLsb' 56 8 s.mul0.l3), (BitVec.extractLsb' 0 8 s.mul1.l0), (BitVec.extractLsb' 8 8 s.mul1.l0), (BitVec.extractLsb' 16 8 s.mul1.l0), (BitVec.extractLsb' 24 8 s.mul1.l0), (BitVec.extractLsb' 32 8 s.mul1.l0), (BitVec.extractLsb' 40 8 s.mul1.l0), (BitVec.extractLsb' 48 8 s.mul1.l0), (BitVec.extractLsb' 56 8 s.mul1.l0), (BitVec.extractLsb' 0 8 s.mul1.l1), (BitVec.extractLsb' 8 8 s.mul1.l1), (BitVec.extractLsb' 16 8 s.mul1.l1), (BitVec.extractLsb' 24 8 s.mul1.l1), (BitVec.extractLsb' 32 8 s.mul1.l1), (BitVec.extractLsb' 40 8 s.mul1.l1), (BitVec.extractLsb' 48 8 s.mul1.l1), (BitVec.extractLsb' 56 8 s.mul1.l1), (BitVec.extractLsb' 0 8 s.mul1.l2), (BitVec.extractLsb' 8 8 s.mul1.l2), (BitVec.extractLsb' 16 8 s.mul1.l2), (BitVec.extractLsb' 24 8 s.mul1.l2), (BitVec.extractLsb' 32 8 s.mul1.l2), (BitVec.extractLsb' 40 8 s.mul1.l2), (BitVec.extractLsb' 48 8 s.mul1.l2), (BitVec.extractLsb' 56 8 s.mul1.l2), (BitVec.extractLsb' 0 8 s.mul1.l3), (BitVec.extractLsb' 8 8 s.mul1.l3), (BitVec.extractLsb' 16 8 s.mul1.l3), (BitVec.extractLsb' 24 8 s.mul1.l3), (BitVec.extractLsb' 32 8 s.mul1.l3), (BitVec.extractLsb' 40 8 s.mul1.l3), (BitVec.extractLsb' 48 8 s.mul1.l3), (BitVec.extractLsb' 56 8 s.mul1.l3), b0, b1, b2, b3, b4, b5, b6, b7, b8, b9, b10, (0#8), (0#8), (0#8), (0#8), (0#8), (0#8), (0#8), (0#8), (0#8), (0#8), (0#8), (0#8), (0#8), (0#8), (0#8), (0#8), (0#8), (0#8), (0#8), (0#8), (0#8), (BitVec.extractLsb' 0 8 (11#32)), (BitVec.extractLsb' 8 8 (11#32)), (BitVec.extractLsb' 16 8 (11#32)), (BitVec.extractLsb' 24 8 (11#32))]
def checkpoint12 (s : St) (b0 b1 b2 b3 b4 b5 b6 b7 b8 b9 b10 b11 b12 b13 b14 b15 b16 b17 b18 b19 b20 b21 b22 b23 b24 b25 b26 b27 b28 b29 b30 b31 : BitVec 8) : List (BitVec 8) :=
  [(BitVec.extractLsb' 0 8 s.v0.l0), (BitVec.extractLsb' 8 8 s.v0.l0), (BitVec.extractLsb' 16 8 s.v0.l0), (BitVec.extractLsb' 24 8 s.v0.l0), (BitVec.extractLsb' 32 8 s.v0.l0), (BitVec.extractLsb' 40 8 s.v0.l0), (BitVec.extractLsb' 48 8 s.v0.l0), (BitVec.extractLsb' 56 8 s.v0.l0), (BitVec.extractLsb' 0 8 s.v0.l1), (BitVec.extractLsb' 8 8 s.v0.l1), (BitVec.extractLsb' 16 8 s.v0.l1), (BitVec.extractLsb' 24 8 s.v0.l1), (BitVec.extractLsb' 32 8 s.v0.l1), (BitVec.extractLsb' 40 8 s.v0.l1), (BitVec.extractLsb' 48 8 s.v0.l1), (BitVec.extractLsb' 56 8 s.v0.l1), (BitVec.extractLsb' 0 8 s.v0.l2), (BitVec.extractLsb' 8 8 s.v0.l2), (BitVec.extractLsb' 16 8 s.v0.l2), (BitVec.extractLsb' 24 8 s.v0.l2), (BitVec.extractLsb' 32 8 s.v0.l2), (BitVec.extractLsb' 40 8 s.v0.l2), (BitVec.extractLsb' 48 8 s.v0.l2), (BitVec.extractLsb' 56 8 s.v0.l2), (BitVec.extractLsb' 0 8 s.v0.l3), (BitVec.extractLsb' 8 8 s.v0.l3), (BitVec.extractLsb' 16 8 s.v0.l3), (BitVec.extractLsb' 24 8 s.v0.l3), (BitVec.extractLsb' 32 8 s.v0.l3), (BitVec.extractLsb' 40 8 s.v0.l3), (BitVec.extractLsb' 48 8 s.v0.l3), (BitVec.extractLsb' 56 8 s.v0.l3), (BitVec.extractLsb' 0 8 s.v1.l0), (BitVec.extractLsb' 8 8 s.v1.l0), (BitVec.extractLsb' 16 8 s.v1.l0), (BitVec.extractLsb' 24 8 s.v1.l0), (BitVec.extractLsb' 32 8 s.v1.l0), (BitVec.extractLsb' 40 8 s.v1.l0), (BitVec.extractLsb' 48 8 s.v1.l0), (BitVec.extractLsb' 56 8 s.v1.l0), (BitVec.extractLsb' 0 8 s.v1.l1), (BitVec.extractLsb' 8 8 s.v1.l1), (BitVec.extractLsb' 16 8 s.v1.l1), (BitVec.extractLsb' 24 8 s.v1.l1), (BitVec.extractLsb' 32 8 s.v1.l1), (BitVec.extractLsb' 40 8 s.v1.l1), (BitVec.extractLsb' 48 8 s.v1.l1), (BitVec.extractLsb' 56 8 s.v1.l1), (BitVec.extractLsb' 0 8 s.v1.l2), (BitVec.extractLsb' 8 8 s.v1.l2), (BitVec.extractLsb' 16 8 s.v1.l2), (BitVec.extractLsb' 24 8 s.v1.l2), (BitVec.extractLsb' 32 8 s.v1.l2), (BitVec.extractLsb' 40 8 s.v1.l2), (BitVec.extractLsb' 48 8 s.v1.l2), (BitVec.extractLsb' 56 8 s.v1.l2), (BitVec.extractLsb' 0 8 s.v1.l3), (BitVec.extractLsb' 8 8 s.v1.l3), (BitVec.extractLsb' 16 8 s.v1.l3), (BitVec.extractLsb' 24 8 s.v1.l3), (BitVec.extractLsb' 32 8 s.v1.l3), (BitVec.extractLsb' 40 8 s.v1.l3), (BitVec.extractLsb' 48 8 s.v1.l3), (BitVec.extractLsb' 56 8 s.v1.l3), (BitVec.extractLsb' 0 8 s.mul0.l0), (BitVec.extractLsb' 8 8 s.mul0.l0), (BitVec.extractLsb' 16 8 s.mul0.l0), (BitVec.extractLsb' 24 8 s.mul0.l0), (BitVec.extractLsb' 32 8 s.mul0.l0), (BitVec.extractLsb' 40 8 s.mul0.l0), (BitVec.extractLsb' 48 8 s.mul0.l0), (BitVec.extractLsb' 56 8 s.mul0.l0), (BitVec.extractLsb' 0 8 s.mul0.l1), (BitVec.extractLsb' 8 8 s.mul0.l1), (BitVec.extractLsb' 16 8 s.mul0.l1), (BitVec.extractLsb' 24 8 s.mul0.l1), (BitVec.extractLsb' 32 8 s.mul0.l1), (BitVec.extractLsb' 40 8 s.mul0.l1), (BitVec.extractLsb' 48 8 s.mul0.l1), (BitVec.extractLsb' 56 8 s.mul0.l1), (BitVec.extractLsb' 0 8 s.mul0.l2), (BitVec.extractLsb' 8 8 s.mul0.l2), (BitVec.extractLsb' 16 8 s.mul0.l2), (BitVec.extractLsb' 24 8 s.mul0.l2), (BitVec.extractLsb' 32 8 s.mul0.l2), (BitVec.extractLsb' 40 8 s.mul0.l2), (BitVec.extractLsb' 48 8 s.mul0.l2), (BitVec.extractLsb' 56 8 s.mul0.l2), (BitVec.extractLsb' 0 8 s.mul0.l3), (BitVec.extractLsb' 8 8 s.mul0.l3), (BitVec.extractLsb' 16 8 s.mul0.l3), (BitVec.extractLsb' 24 8 s.mul0.l3), (BitVec.extractLsb' 32 8 s.mul0.l3), (BitVec.extractLsb' 40 8 s.mul0.l3), (BitVec.extractLsb' 48 8 s.mul0.l3), (BitVec.extractLsb' 56 8 s.mul0.l3), (BitVec.extractLsb' 0 8 s.mul1.l0), (BitVec.extractLsb' 8 8 s.mul1.l0), (BitVec.extractLsb' 16 8 s.mul1.l0), (BitVec.extractLsb' 24 8 s.mul1.l0), (BitVec.extractLsb' 32 8 s.mul1.l0), (BitVec.extractLsb' 40 8 s.mul1.l0), (BitVec.extractLsb' 48 8 s.mul1.l0), (BitVec.extractLsb' 56 8 s.mul1.l0), (BitVec.extractLsb' 0 8 s.mul1.l1), (BitVec.extractLsb' 8 8 s.mul1.l1), (BitVec.extractLsb' 16 8 s.mul1.l1), (BitVec.extractLsb' 24 8 s.mul1.l1), (BitVec.extractLsb' 32 8 s.mul1.l1), (BitVec.extractLsb' 40 8 s.mul1.l1), (BitVec.extractLsb' 48 8 s.mul1.l1), (BitVec.extractLsb' 56 8 s.mul1.l1), (BitVec.extractLsb' 0 8 s.mul1.l2), (BitVec.extractLsb' 8 8 s.mul1.l2), (BitVec.extractLsb' 16 8 s.mul1.l2), (BitVec.extractLsb' 24 8 s.mul1.l2), (BitVec.extractLsb' 32 8 s.mul1.l2), (BitVec.extractLsb' 40 8 s.mul1.l2), (BitVec.extractLsb' 48 8 s.mul1.l2), (BitVec.extractLsb' 56 8 s.mul1.l2), (BitVec.extractLsb' 0 8 s.mul1.l3), (BitVec.extractLsb' 8 8 s.mul1.l3), (BitVec.extractLsb' 16 8 s.mul1.l3), (BitVec.extractLsb' 24 8 s.mul1.l3), (BitVec.extractLsb' 32 8 s.mul1.l3), (BitVec.extractLsb' 40 8 s.mul1.l3), (BitVec.extractLsb' 48 8 s.mul1.l3), (BitVec.extractLsb' 56 8 s.mul1.l3), b0, b1, b2, b3, b4, b5, b6, b7, b8, b9, b10, b11, (0#8), (0#8), (0#8), (0#8), (0#8), (0#8), (0#8), (0#8), (0#8), (0#8), (0#8), (0#8), (0#8), (0#8), (0#8), (0#8), (0#8), (0#8), (0#8), (0#8), (BitVec.extractLsb' 0 8 (12#32)), (BitVec.extractLsb' 8 8 (12#32)), (BitVec.extractLsb' 16 8 (12#32)), (BitVec.extractLsb' 24 8 (12#32))]
def checkpoint13 (s : St) (b0 b1 b2 b3 b4 b5 b6 b7 b8 b9 b10 b11 b12 b13 b14 b15 b16 b17 b18 b19 b20 b21 b22 b23 b24 b25 b26 b27 b28 b29 b30 b31 : BitVec 8) : List (BitVec 8) :=
  [(BitVec.extractLsb' 0 8 s.v0.l0), (BitVec.extractLsb' 8 8 s.v0.l0), (BitVec.extractLsb' 16 8 s.v0.l0), (BitVec.extractLsb' 24 8 s.v0.l0), (BitVec.extractLsb' 32 8 s.v0.l0), (BitVec.extractLsb' 40 8 s.v0.l0), (BitVec.extractLsb' 48 8 s.v0.l0), (BitVec.extractLsb' 56 8 s.v0.l0), (BitVec.extractLsb' 0 8 s.v0.l1), (BitVec.extractLsb' 8 8 s.v0.l1), (BitVec.extractLsb' 16 8 s.v0.l1), (BitVec.extractLsb' 24 8 s.v0.l1), (BitVec.extractLsb' 32 8 s.v0.l1), (BitVec.extractLsb' 40 8 s.v0.l1), (BitVec.extractLsb' 48 8 s.v0.l1), (BitVec.extractLsb' 56 8 s.v0.l1), (BitVec.extractLsb' 0 8 s.v0.l2), (BitVec.extractLsb' 8 8 s.v0.l2), (BitVec.extractLsb' 16 8 s.v0.l2), (BitVec.extractLsb' 24 8 s.v0.l2), (BitVec.extractLsb' 32 8 s.v0.l2), (BitVec.extractLsb' 40 8 s.v0.l2), (BitVec.extractLsb' 48 8 s.v0.l2), (BitVec.extractLsb' 56 8 s.v0.l2), (BitVec.extractLsb' 0 8 s.v0.l3), (BitVec.extractLsb' 8 8 s.v0.l3), (BitVec.extractLsb' 16 8 s.v0.l3), (BitVec.extractLsb' 24 8 s.v0.l3), (BitVec.extractLsb' 32 8 s.v0.l3), (BitVec.extractLsb' 40 8 s.v0.l3), (BitVec.extractLsb' 48 8 s.v0.l3), (BitVec.extractLsb' 56 8 s.v0.l3), (BitVec.extractLsb' 0 8 s.v1.l0), (BitVec.extractLsb' 8 8 s.v1.l0), (BitVec.extractLsb' 16 8 s.v1.l0), (BitVec.extractLsb' 24 8 s.v1.l0), (BitVec.extractLsb' 32 8 s.v1.l0), (BitVec.extractLsb' 40 8 s.v1.l0), (BitVec.extractLsb' 48 8 s.v1.l0), (BitVec.extractLsb' 56 8 s.v1.l0), (BitVec.extractLsb' 0 8 s.v1.l1), (BitVec.extractLsb' 8 8 s.v1.l1), (BitVec.extractLsb' 16 8 s.v1.l1), (BitVec.extractLsb' 24 8 s.v1.l1), (BitVec.extractLsb' 32 8 s.v1.l1), (BitVec.extractLsb' 40 8 s.v1.l1), (BitVec.extractLsb' 48 8 s.v1.l1), (BitVec.extractLsb' 56 8 s.v1.l1), (BitVec.extractLsb' 0 8 s.v1.l2), (BitVec.extractLsb' 8 8 s.v1.l2), (BitVec.extractLsb' 16 8 s.v1.l2), (BitVec.extractLsb' 24 8 s.v1.l2), (BitVec.extractLsb' 32 8 s.v1.l2), (BitVec.extractLsb' 40 8 s.v1.l2), (BitVec.extractLsb' 48 8 s.v1.l2), (BitVec.extractLsb' 56 8 s.v1.l2), (BitVec.extractLsb' 0 8 s.v1.l3), (BitVec.extractLsb' 8 8 s.v1.l3), (BitVec.extractLsb' 16 8 s.v1.l3), (BitVec.extractLsb' 24 8 s.v1.l3), (BitVec.extractLsb' 32 8 s.v1.l3), (BitVec.extractLsb' 40 8 s.v1.l3), (BitVec.extractLsb' 48 8 s.v1.l3), (BitVec.extractLsb' 56 8 s.v1.l3), (BitVec.extractLsb' 0 8 s.mul0.l0), (BitVec.extractLsb' 8 8 s.mul0.l0), (BitVec.extractLsb' 16 8 s.mul0.l0), (BitVec.extractLsb' 24 8 s.mul0.l0), (BitVec.extractLsb' 32 8 s.mul0.l0), (BitVec.extractLsb' 40 8 s.mul0.l0), (BitVec.extractLsb' 48 8 s.mul0.l0), (BitVec.extractLsb' 56 8 s.mul0.l0), (BitVec.extractLsb' 0 8 s.mul0.l1), (BitVec.extractLsb' 8 8 s.mul0.l1), (BitVec.extractLsb' 16 8 s.mul0.l1), (BitVec.extractLsb' 24 8 s.mul0.l1), (BitVec.extractLsb' 32 8 s.mul0.l1), (BitVec.extractLsb' 40 8 s.mul0.l1), (BitVec.extractLsb' 48 8 s.mul0.l1), (BitVec.extractLsb' 56 8 s.mul0.l1), (BitVec.extractLsb' 0 8 s.mul0.l2), (BitVec.extractLsb' 8 8 s.mul0.l2), (BitVec.extractLsb' 16 8 s.mul0.l2), (BitVec.extractLsb' 24 8 s.mul0.l2), (BitVec.extractLsb' 32 8 s.mul0.l2), (BitVec.extractLsb' 40 8 s.mul0.l2), (BitVec.extractLsb' 48 8 s.mul0.l2), (BitVec.extractLsb' 56 8 s.mul0.l2), (BitVec.extractLsb' 0 8 s.mul0.l3), (BitVec.extractLsb' 8 8 s.mul0.l3), (BitVec.extractLsb' 16 8 s.mul0.l3), (BitVec.extractLsb' 24 8 s.mul0.l3), (BitVec.extractLsb' 32 8 s.mul0.l3), (BitVec.extractLsb' 40 8 s.mul0.l3), (BitVec.extractLsb' 48 8 s.mul0.l3), (BitVec.extractLsb' 56 8 s.mul0.l3), (BitVec.extractLsb' 0 8 s.mul1.l0), (BitVec.extractLsb' 8 8 s.mul1.l0), (BitVec.extractLsb' 16 8 s.mul1.l0), (BitVec.extractLsb' 24 8 s.mul1.l0), (BitVec.extractLsb' 32 8 s.mul1.l0), (BitVec.extractLsb' 40 8 s.mul1.l0), (BitVec.extractLsb' 48 8 s.mul1.l0), (BitVec.extractLsb' 56 8 s.mul1.l0), (BitVec.extractLsb' 0 8 s.mul1.l1), (BitVec.extractLsb' 8 8 s.mul1.l1), (BitVec.extractLsb' 16 8 s.mul1.l1), (BitVec.extractLsb' 24 8 s.mul1.l1), (BitVec.extractLsb' 32 8 s.mul1.l1), (BitVec.extractLsb' 40 8 s.mul1.l1), (BitVec.extractLsb' 48 8 s.mul1.l1), (BitVec.extractLsb' 56 8 s.mul1.l1), (BitVec.extractLsb' 0 8 s.mul1.l2), (BitVec.extractLsb' 8 8 s.mul1.l2), (BitVec.extractLsb' 16 8 s.mul1.l2), (BitVec.extractLsb' 24 8 s.mul1.l2), (BitVec.extractLsb' 32 8 s.mul1.l2), (BitVec.extractLsb' 40 8 s.mul1.l2), (BitVec.extractLsb' 48 8 s.mul1.l2), (BitVec.extractLsb' 56 8 s.mul1.l2), (BitVec.extractLsb' 0 8 s.mul1.l3), (BitVec.extractLsb' 8 8 s.mul1.l3), (BitVec.extractLsb' 16 8 s.mul1.l3), (BitVec.extractLsb' 24 8 s.mul1.l3), (BitVec.extractLsb' 32 8 s.mul1.l3), (BitVec.extractLsb' 40 8 s.mul1.l3), (BitVec.extractLsb' 48 8 s.mul1.l3), (BitVec.extractLsb' 56 8 s.mul1.l3), b0, b1, b2, b3, b4, b5, b6, b7, b8, b9, b10, b11, b12, (0#8), (0#8), (0#8), (0#8), (0#8), (0#8), (0#8), (0#8), (0#8), (0#8), (0#8), (0#8), (0#8), (0#8), (0#8), (0#8), (0#8), (0#8), (0#8), (BitVec.extractLsb' 0 8 (13#32)), (BitVec.extractLsb' 8 8 (13#32)), (BitVec.extractLsb' 16 8 (13#32)), (BitVec.extractLsb' 24 8 (13#32))]
def checkpoint14 (s : St) (b0 b1 b2 b3 b4 b5 b6 b7 b8 b9 b10 b11 b12 b13 b14 b15 b16 b17 b18 b19 b20 b21 b22 b23 b24 b25 b26 b27 b28 b29 b30 b31 : BitVec 8) : List (BitVec 8) :=
  [(BitVec.extractLsb' 0 8 s.v0.l0), (BitVec.extractLsb' 8 8 s.v0.l0), (BitVec.extractLsb' 16 8 s.v0.l0), (BitVec.extractLsb' 24 8 s.v0.l0), (BitVec.extractLsb' 32 8 s.v0.l0), (BitVec.extractLsb' 40 8 s.v0.l0), (BitVec.extractLsb' 48 8 s.v0.l0), (BitVec.extractLsb' 56 8 s.v0.l0), (BitVec.extractLsb' 0 8 s.v0.l1), (BitVec.extractLsb' 8 8 s.v0.l1), (BitVec.extractLsb' 16 8 s.v0.l1), (BitVec.extractLsb' 24 8 s.v0.l1), (BitVec.extractLsb' 32 8 s.v0.l1), (BitVec.extractLsb' 40 8 s.v0.l1), (BitVec.extractLsb' 48 8 s.v0.l1), (BitVec.extractLsb' 56 8 s.v0.l1), (BitVec.extractLsb' 0 8 s.v0.l2), (BitVec.extractLsb' 8 8 s.v0.l2), (BitVec.extractLsb' 16 8 s.v0.l2), (BitVec.extractLsb' 24 8 s.v0.l2), (BitVec.extractLsb' 32 8 s.v0.l2), (BitVec.extractLsb' 40 8 s.v0.l2), (BitVec.extractLsb' 48 8 s.v0.l2), (BitVec.extractLsb' 56 8 s.v0.l2), (BitVec.extractLsb' 0 8 s.v0.l3), (BitVec.extractLsb' 8 8 s.v0.l3), (BitVec.extractLsb' 16 8 s.v0.l3), (BitVec.extractLsb' 24 8 s.v0.l3), (BitVec.extractLsb' 32 8 s.v0.l3), (BitVec.extractLsb' 40 8 s.v0.l3), (BitVec.extractLsb' 48 8 s.v0.l3), (BitVec.extractLsb' 56 8 s.v0.l3), (BitVec.extractLsb' 0 8 s.v1.l0), (BitVec.extractLsb' 8 8 s.v1.l0), (BitVec.extractLsb' 16 8 s.v1.l0), (BitVec.extractLsb' 24 8 s.v1.l0), (BitVec.extractLsb' 32 8 s.v1.l0), (BitVec.extractLsb' 40 8 s.v1.l0), (BitVec.extractLsb' 48 8 s.v1.l0), (BitVec.extractLsb' 56 8 s.v1.l0), (BitVec.extractLsb' 0 8 s.v1.l1), (BitVec.extractLsb' 8 8 s.v1.l1), (BitVec.extractLsb' 16 8 s.v1.l1), (BitVec.extractLsb' 24 8 s.v1.l1), (BitVec.extractLsb' 32 8 s.v1.l1), (BitVec.extractLsb' 40 8 s.v1.l1), (BitVec.extractLsb' 48 8 s.v1.l1), (BitVec.extractLsb' 56 8 s.v1.l1), (BitVec.extractLsb' 0 8 s.v1.l2), (BitVec.extractLsb' 8 8 s.v1.l2), (BitVec.extractLsb' 16 8 s.v1.l2), (BitVec.extractLsb' 24 8 s.v1.l2), (BitVec.extractLsb' 32 8 s.v1.l2), (BitVec.extractLsb' 40 8 s.v1.l2), (BitVec.extractLsb' 48 8 s.v1.l2), (BitVec.extractLsb' 56 8 s.v1.l2), (BitVec.extractLsb' 0 8 s.v1.l3), (BitVec.extractLsb' 8 8 s.v1.l3), (BitVec.extractLsb' 16 8 s.v1.l3), (BitVec.extractLsb' 24 8 s.v1.l3), (BitVec.extractLsb' 32 8 s.v1.l3), (BitVec.extractLsb' 40 8 s.v1.l3), (BitVec.extractLsb' 48 8 s.v1.l3), (BitVec.extractLsb' 56 8 s.v1.l3), (BitVec.extractLsb' 0 8 s.mul0.l0), (BitVec.extractLsb' 8 8 s.mul0.l0), (BitVec.extractLsb' 16 8 s.mul0.l0), (BitVec.extractLsb' 24 8 s.mul0.l0), (BitVec.extractLsb' 32 8 s.mul0.l0), (BitVec.extractLsb' 40 8 s.mul0.l0), (BitVec.extractLsb' 48 8 s.mul0.l0), (BitVec.extractLsb' 56 8 s.mul0.l0), (BitVec.extractLsb' 0 8 s.mul0.l1), (BitVec.extractLsb' 8 8 s.mul0.l1), (BitVec.extractLsb' 16 8 s.mul0.l1), (BitVec.extractLsb' 24 8 s.mul0.l1), (BitVec.extractLsb' 32 8 s.mul0.l1), (BitVec.extractLsb' 40 8 s.mul0.l1), (BitVec.extractLsb' 48 8 s.mul0.l1), (BitVec.extractLsb' 56 8 s.mul0.l1), (BitVec.extractLsb' 0 8 s.mul0.l2), (BitVec.extractLsb' 8 8 s.mul0.l2), (BitVec.extractLsb' 16 8 s.mul0.l2), (BitVec.extractLsb' 24 8 s.mul0.l2), (BitVec.extractLsb' 32 8 s.mul0.l2), (BitVec.extractLsb' 40 8 s.mul0.l2), (BitVec.extractLsb' 48 8 s.mul0.l2), (BitVec.extractLsb' 56 8 s.mul0.l2), (BitVec.extractLsb' 0 8 s.mul0.l3), (BitVec.extractLsb' 8 8 s.mul0.l3), (BitVec.extractLsb' 16 8 s.mul0.l3), (BitVec.extractLsb' 24 8 s.mul0.l3), (BitVec.extractLsb' 32 8 s.mul0.l3), (BitVec.extractLsb' 40 8 s.mul0.l3), (BitVec.extractLsb' 48 8 s.mul0.l3), (BitVec.extractLsb' 56 8 s.mul0.l3), (BitVec.extractLsb' 0 8 s.mul1.l0), (BitVec.extractLsb' 8 8 s.mul1.l0), (BitVec.extractLsb' 16 8 s.mul1.l0), (BitVec.extractLsb' 24 8 s.mul1.l0), (BitVec.extractLsb' 32 8 s.mul1.l0), (BitVec.extractLsb' 40 8 s.mul1.l0), (BitVec.extractLsb' 48 8 s.mul1.l0), (BitVec.extractLsb' 56 8 s.mul1.l0), (BitVec.extractLsb' 0 8 s.mul1.l1), (BitVec.extractLsb' 8 8 s.mul1.l1), (BitVec.extractLsb' 16 8 s.mul1.l1), (BitVec.extractLsb' 24 8 s.mul1.l1), (BitVec.extractLsb' 32 8 s.mul1.l1), (BitVec.extractLsb' 40 8 s.mul1.l1), (BitVec.extractLsb' 48 8 s.mul1.l1), (BitVec.extractLsb' 56 8 s.mul1.l1), (BitVec.extractLsb' 0 8 s.mul1.l2), (BitVec.extractLsb' 8 8 s.mul1.l2), (BitVec.extractLsb' 16 8 s.mul1.l2), (BitVec.extractLsb' 24 8 s.mul1.l2), (BitVec.extractLsb' 32 8 s.mul1.l2), (BitVec.extractLsb' 40 8 s.mul1.l2), (BitVec.extractLsb' 48 8 s.mul1.l2), (BitVec.extractLsb' 56 8 s.mul1.l2), (BitVec.extractLsb' 0 8 s.mul1.l3), (BitVec.extractLsb' 8 8 s.mul1.l3), (BitVec.extractLsb' 16 8 s.mul1.l3), (BitVec.extractLsb' 24 8 s.mul1.l3), (BitVec.extractLsb' 32 8 s.mul1.l3), (BitVec.extractLsb' 40 8 s.mul1.l3), (BitVec.extractLsb' 48 8 s.mul1.l3), (BitVec.extractLsb' 56 8 s.mul1.l3), b0, b1, b2, b3, b4, b5, b6, b7, b8, b9, b10, b11, b12, b13, (0#8), (0#8), (0#8), (0#8), (0#8), (0#8), (0#8), (0#8), (0#8), (0#8), (0#8), (0#8), (0#8), (0#8), (0#8), (0#8), (0#8), (0#8), (BitVec.extractLsb' 0 8 (14#32)), (BitVec.extractLsb' 8 8 (14#32)), (BitVec.extractLsb' 16 8 (14#32)), (BitVec.extractLsb' 24 8 (14#32))]
def checkpoint15 (s : St) (b0 b1 b2 b3 b4 b5 b6 b7 b8 b9 b10 b11 b12 b13 b14 b15 b16 b17 b18 b19 b20 b21 b22 b23 b24 b25 b26 b27 b28 b29 b30 b31 : BitVec 8) : List (BitVec 8) :=
  [(BitVec.extractLsb' 0 8 s.v0.l0), (BitVec.extractLsb' 8 8 s.v0.l0), (BitVec.extractLsb' 16 8 s.v0.l0), (BitVec.extractLsb' 24 8 s.v0.l0), (BitVec.extractLsb' 32 8 s.v0.l0), (BitVec.extractLsb' 40 8 s.v0.l0), (BitVec.extractLsb' 48 8 s.v0.l0), (BitVec.extractLsb' 56 8 s.v0.l0), (BitVec.extractLsb' 0 8 s.v0.l1), (BitVec.extractLsb' 8 8 s.v0.l1), (BitVec.extractLsb' 16 8 s.v0.l1), (BitVec.extractLsb' 24 8 s.v0.l1), (BitVec.extractLsb' 32 8 s.v0.l1), (BitVec.extractLsb' 40 8 s.v0.l1), (BitVec.extractLsb' 48 8 s.v0.l1), (BitVec.extractLsb' 56 8 s.v0.l1), (BitVec.extractLsb' 0 8 s.v0.l2), (BitVec.extractLsb' 8 8 s.v0.l2), (BitVec.extractLsb' 16 8 s.v0.l2), (BitVec.extractLsb' 24 8 s.v0.l2), (BitVec.extractLsb' 32 8 s.v0.l2), (BitVec.extractLsb' 40 8 s.v0.l2), (BitVec.extractLsb' 48 8 s.v0.l2), (BitVec.extractLsb' 56 8 s.v0.l2), (BitVec.extractLsb' 0 8 s.v0.l3), (BitVec.extractLsb' 8 8 s.v0.l3), (BitVec.extractLsb' 16 8 s.v0.l3), (BitVec.extractLsb' 24 8 s.v0.l3), (BitVec.extractLsb' 32 8 s.v0.l3), (BitVec.extractLsb' 40 8 s.v0.l3), (BitVec.extractLsb' 48 8 s.v0.l3), (BitVec.extractLsb' 56 8 s.v0.l3), (BitVec.extractLsb' 0 8 s.v1.l0), (BitVec.extractLsb' 8 8 s.v1.l0), (BitVec.extractLsb' 16 8 s.v1.l0), (BitVec.extractLsb' 24 8 s.v1.l0), (BitVec.extractLsb' 32 8 s.v1.l0), (BitVec.extractLsb' 40 8 s.v1.l0), (BitVec.extractLsb' 48 8 s.v1.l0), (BitVec.extractLsb' 56 8 s.v1.l0), (BitVec.extractLsb' 0 8 s.v1.l1), (BitVec.extractLsb' 8 8 s.v1.l1), (BitVec.extractLsb' 16 8 s.v1.l1), (BitVec.extractLsb' 24 8 s.v1.l1), (BitVec.extractLsb' 32 8 s.v1.l1), (BitVec.extractLsb' 40 8 s.v1.l1), (BitVec.extractLsb' 48 8 s.v1.l1), (BitVec.extractLsb' 56 8 s.v1.l1), (BitVec.extractLsb' 0 8 s.v1.l2), (BitVec.extractLsb' 8 8 s.v1.l2), (BitVec.extractLsb' 16 8 s.v1.l2), (BitVec.extractLsb' 24 8 s.v1.l2), (BitVec.extractLsb' 32 8 s.v1.l2), (BitVec.extractLsb' 40 8 s.v1.l2), (BitVec.extractLsb' 48 8 s.v1.l2), (BitVec.extractLsb' 56 8 s.v1.l2), (BitVec.extractLsb' 0 8 s.v1.l3), (BitVec.extractLsb' 8 8 s.v1.l3), (BitVec.extractLsb' 16 8 s.v1.l3), (BitVec.extractLsb' 24 8 s.v1.l3), (BitVec.extractLsb' 32 8 s.v1.l3), (BitVec.extractLsb' 40 8 s.v1.l3), (BitVec.extractLsb' 48 8 s.v1.l3), (BitVec.extractLsb' 56 8 s.v1.l3), (BitVec.extractLsb' 0 8 s.mul0.l0), (BitVec.extractLsb' 8 8 s.mul0.l0), (BitVec.extractLsb' 16 8 s.mul0.l0), (BitVec.extractLsb' 24 8 s.mul0.l0), (BitVec.extractLsb' 32 8 s.mul0.l0), (BitVec.extractLsb' 40 8 s.mul0.l0), (BitVec.extractLsb' 48 8 s.mul0.l0), (BitVec.extractLsb' 56 8 s.mul0.l0), (BitVec.extractLsb' 0 8 s.mul0.l1), (BitVec.extractLsb' 8 8 s.mul0.l1), (BitVec.extractLsb' 16 8 s.mul0.l1), (BitVec.extractLsb' 24 8 s.mul0.l1), (BitVec.extractLsb' 32 8 s.mul0.l1), (BitVec.extractLsb' 40 8 s.mul0.l1), (BitVec.extractLsb' 48 8 s.mul0.l1), (BitVec.extractLsb' 56 8 s.mul0.l1), (BitVec.extractLsb' 0 8 s.mul0.l2), (BitVec.extractLsb' 8 8 s.mul0.l2), (BitVec.extractLsb' 16 8 s.mul0.l2), (BitVec.extractLsb' 24 8 s.mul0.l2), (BitVec.extractLsb' 32 8 s.mul0.l2), (BitVec.extractLsb' 40 8 s.mul0.l2), (BitVec.extractLsb' 48 8 s.mul0.l2), (BitVec.extractLsb' 56 8 s.mul0.l2), (BitVec.extractLsb' 0 8 s.mul0.l3), (BitVec.extractLsb' 8 8 s.mul0.l3), (BitVec.extractLsb' 16 8 s.mul0.l3), (BitVec.extractLsb' 24 8 s.mul0.l3), (BitVec.extractLsb' 32 8 s.mul0.l3), (BitVec.extractLsb' 40 8 s.mul0.l3), (BitVec.extractLsb' 48 8 s.mul0.l3), (BitVec.extractLsb' 56 8 s.mul0.l3), (BitVec.extractLsb' 0 8 s.mul1.l0), (BitVec.extractLsb' 8 8 s.mul1.l0), (BitVec.extractLsb' 16 8 s.mul1.l0), (BitVec.extractLsb' 24 8 s.mul1.l0), (BitVec.extractLsb' 32 8 s.mul1.l0), (BitVec.extractLsb' 40 8 s.mul1.l0), (BitVec.extractLsb' 48 8 s.mul1.l0), (BitVec.extractLsb' 56 8 s.mul1.l0), (BitVec.extractLsb' 0 8 s.mul1.l1), (BitVec.extractLsb' 8 8 s.mul1.l1), (BitVec.extractLsb' 16 8 s.mul1.l1), (BitVec.extractLsb' 24 8 s.mul1.l1), (BitVec.extractLsb' 32 8 s.mul1.l1), (BitVec.extractLsb' 40 8 s.mul1.l1), (BitVec.extractLsb' 48 8 s.mul1.l1), (BitVec.extractLsb' 56 8 s.mul1.l1), (BitVec.extractLsb' 0 8 s.mul1.l2), (BitVec.extractLsb' 8 8 s.mul1.l2), (BitVec.extractLsb' 16 8 s.mul1.l2), (BitVec.extractLsb' 24 8 s.mul1.l2), (BitVec.extractLsb' 32 8 s.mul1.l2), (BitVec.extractLsb' 40 8 s.mul1.l2), (BitVec.extractLsb' 48 8 s.mul1.l2), (BitVec.extractLsb' 56 8 s.mul1.l2), (BitVec.extractLsb' 0 8 s.mul1.l3), (BitVec.extractLsb' 8 8 s.mul1.l3), (BitVec.extractLsb' 16 8 s.mul1.l3), (BitVec.extractLsb' 24 8 s.mul1.l3), (BitVec.extractLsb' 32 8 s.mul1.l3), (BitVec.extractLsb' 40 8 s.mul1.l3), (BitVec.extractLsb' 48 8 s.mul1.l3), (BitVec.extractLsb' 56 8 s.mul1.l3), b0, b1, b2, b3, b4, b5, b6, b7, b8, b9, b10, b11, b12, b13, b14, (0#8), (0#8), (0#8), (0#8), (0#8), (0#8), (0#8), (0#8), (0#8), (0#8), (0#8), (0#8), (0#8), (0#8), (0#8), (0#8), (0#8), (BitVec.extractLsb' 0 8 (15#32)), (BitVec.extractLsb' 8 8 (15#32)), (BitVec.extractLsb' 16 8 (15#32)), (BitVec.extractLsb' 24 8 (15#32))]
def checkpoint16 (s : St) (b0 b1 b2 b3 b4 b5 b6 b7 b8 b9 b10 b11 b12 b13 b14 b15 b16 b17 b18 b19 b20 b21 b22 b23 b24 b25 b26 b27 b28 b29 b30 b31 : BitVec 8) : List (BitVec 8) :=
  [(BitVec.extractLsb' 0 8 s.v0.l0), (BitVec.extractLsb' 8 8 s.v0.l0), (BitVec.extractLsb' 16 8 s.v0.l0), (BitVec.extractLsb' 24 8 s.v0.l0), (BitVec.extractLsb' 32 8 s.v0.l0), (BitVec.extractLsb' 40 8 s.v0.l0), (BitVec.extractLsb' 48 8 s.v0.l0), (BitVec.extractLsb' 56 8 s.v0.l0), (BitVec.extractLsb' 0 8 s.v0.l1), (BitVec.extractLsb' 8 8 s.v0.l1), (BitVec.extractLsb' 16 8 s.v0.l1), (BitVec.extractLsb' 24 8 s.v0.l1), (BitVec.extractLsb' 32 8 s.v0.l1), (BitVec.extractLsb' 40 8 s.v0.l1), (BitVec.extractLsb' 48 8 s.v0.l1), (BitVec.extractLsb' 56 8 s.v0.l1), (BitVec.extractLsb' 0 8 s.v0.l2), (BitVec.extractLsb' 8 8 s.v0.l2), (BitVec.extractLsb' 16 8 s.v0.l2), (BitVec.extractLsb' 24 8 s.v0.l2), (BitVec.extractLsb' 32 8 s.v0.l2), (BitVec.extractLsb' 40 8 s.v0.l2), (BitVec.extractLsb' 48 8 s.v0.l2), (BitVec.extractLsb' 56 8 s.v0.l2), (BitVec.extractLsb' 0 8 s.v0.l3), (BitVec.extractLsb' 8 8 s.v0.l3), (BitVec.extractLsb' 16 8 s.v0.l3), (BitVec.extractLsb' 24 8 s.v0.l3), (BitVec.extractLsb' 32 8 s.v0.l3), (BitVec.extractLsb' 40 8 s.v0.l3), (BitVec.extractLsb' 48 8 s.v0.l3), (BitVec.extractLsb' 56 8 s.v0.l3), (BitVec.extractLsb' 0 8 s.v1.l0), (BitVec.extractLsb' 8 8 s.v1.l0), (BitVec.extractLsb' 16 8 s.v1.l0), (BitVec.extractLsb' 24 8 s.v1.l0), (BitVec.extractLsb' 32 8 s.v1.l0), (BitVec.extractLsb' 40 8 s.v1.l0), (BitVec.extractLsb' 48 8 s.v1.l0), (BitVec.extractLsb' 56 8 s.v1.l0), (BitVec.extractLsb' 0 8 s.v1.l1), (BitVec.extractLsb' 8 8 s.v1.l1), (BitVec.extractLsb' 16 8 s.v1.l1), (BitVec.extractLsb' 24 8 s.v1.l1), (BitVec.extractLsb' 32 8 s.v1.l1), (BitVec.extractLsb' 40 8 s.v1.l1), (BitVec.extractLsb' 48 8 s.v1.l1), (BitVec.extractLsb' 56 8 s.v1.l1), (BitVec.extractLsb' 0 8 s.v1.l2), (BitVec.extractLsb' 8 8 s.v1.l2), (BitVec.extractLsb' 16 8 s.v1.l2), (BitVec.extractLsb' 24 8 s.v1.l2), (BitVec.extractLsb' 32 8 s.v1.l2), (BitVec.extractLsb' 40 8 s.v1.l2), (BitVec.extractLsb' 48 8 s.v1.l2), (BitVec.extractLsb' 56 8 s.v1.l2), (BitVec.extractLsb' 0 8 s.v1.l3), (BitVec.extractLsb' 8 8 s.v1.l3), (BitVec.extractLsb' 16 8 s.v1.l3), (BitVec.extractLsb' 24 8 s.v1.l3), (BitVec.extractLsb' 32 8 s.v1.l3), (BitVec.extractLsb' 40 8 s.v1.l3), (BitVec.extractLsb' 48 8 s.v1.l3), (BitVec.extractLsb' 56 8 s.v1.l3), (BitVec.extractLsb' 0 8 s.mul0.l0), (BitVec.extractLsb' 8 8 s.mul0.l0), (BitVec.extractLsb' 16 8 s.mul0.l0), (BitVec.extractLsb' 24 8 s.mul0.l0), (BitVec.extractLsb' 32 8 s.mul0.l0), (BitVec.extractLsb' 40 8 s.mul0.l0), (BitVec.extractLsb' 48 8 s.mul0.l0), (BitVec.extractLsb' 56 8 s.mul0.l0), (BitVec.extractLsb' 0 8 s.mul0.l1), (BitVec.extractLsb' 8 8 s.mul0.l1), (BitVec.extractLsb' 16 8 s.mul0.l1), (BitVec.extractLsb' 24 8 s.mul0.l1), (BitVec.extractLsb' 32 8 s.mul0.l1), (BitVec.extractLsb' 40 8 s.mul0.l1), (BitVec.extractLsb' 48 8 s.mul0.l1), (BitVec.extractLsb' 56 8 s.mul0.l1), (BitVec.extractLsb' 0 8 s.mul0.l2), (BitVec.extractLsb' 8 8 s.mul0.l2), (BitVec.extractLsb' 16 8 s.mul0.l2), (BitVec.extractLsb' 24 8 s.mul0.l2), (BitVec.extractLsb' 32 8 s.mul0.l2), (BitVec.extractLsb' 40 8 s.mul0.l2), (BitVec.extractLsb' 48 8 s.mul0.l2), (BitVec.extractLsb' 56 8 s.mul0.l2), (BitVec.extractLsb' 0 8 s.mul0.l3), (BitVec.extractLsb' 8 8 s.mul0.l3), (BitVec.extractLsb' 16 8 s.mul0.l3), (BitVec.extractLsb' 24 8 s.mul0.l3), (BitVec.extractLsb' 32 8 s.mul0.l3), (BitVec.extractLsb' 40 8 s.mul0.l3), (BitVec.extractLsb' 48 8 s.mul0.l3), (BitVec.extractLsb' 56 8 s.mul0.l3), (BitVec.extractLsb' 0 8 s.mul1.l0), (BitVec.extractLsb' 8 8 s.mul1.l0), (BitVec.extractLsb' 16 8 s.mul1.l0), (BitVec.extractLsb' 24 8 s.mul1.l0), (BitVec.extractLsb' 32 8 s.mul1.l0), (BitVec.extractLsb' 40 8 s.mul1.l0), (BitVec.extractLsb' 48 8 s.mul1.l0), (BitVec.extractLsb' 56 8 s.mul1.l0), (BitVec.extractLsb' 0 8 s.mul1.l1), (BitVec.extractLsb' 8 8 s.mul1.l1), (BitVec.extractLsb' 16 8 s.mul1.l1), (BitVec.extractLsb' 24 8 s.mul1.l1), (BitVec.extractLsb' 32 8 s.mul1.l1), (BitVec.extractLsb' 40 8 s.mul1.l1), (BitVec.extractLsb' 48 8 s.mul1.l1), (BitVec.extractLsb' 56 8 s.mul1.l1), (BitVec.extractLsb' 0 8 s.mul1.l2), (BitVec.extractLsb' 8 8 s.mul1.l2), (BitVec.extractLsb' 16 8 s.mul1.l2), (BitVec.extractLsb' 24 8 s.mul1.l2), (BitVec.extractLsb' 32 8 s.mul1.l2), (BitVec.extractLsb' 40 8 s.mul1.l2), (BitVec.extractLsb' 48 8 s.mul1.l2), (BitVec.extractLsb' 56 8 s.mul1.l2), (BitVec.extractLsb' 0 8 s.mul1.l3), (BitVec.extractLsb' 8 8 s.mul1.l3), (BitVec.extractLsb' 16 8 s.mul1.l3), (BitVec.extractLsb' 24 8 s.mul1.l3), (BitVec.extractLsb' 32 8 s.mul1.l3), (BitVec.extractLsb' 40 8 s.mul1.l3), (BitVec.extractLsb' 48 8 s.mul1.l3), (BitVec.extractLsb' 56 8 s.mul1.l3), b0, b1, b2, b3, b4, b5, b6, b7, b8, b9, b10, b11, b12, b13, b14, b15, (0#8), (0#8), (0#8), (0#8), (0#8), (0#8), (0#8), (0#8), (0#8), (0#8), (0#8), (0#8), (0#8), (0#8), (0#8), (0#8), (BitVec.extractLsb' 0 8 (16#32)), (BitVec.extractLsb' 8 8 (16#32)), (BitVec.extractLsb' 16 8 (16#32)), (BitVec.extractLsb' 24 8 (16#32))]
def checkpoint17 (s : St) (b0 b1 b2 b3 b4 b5 b6 b7 b8 b9 b10 b11 b12 b13 b14 b15 b16 b17 b18 b19 b20 b21 b22 b23 b24 b25 b26 b27 b28 b29 b30 b31 : BitVec 8) : List (BitVec 8) :=
  [(BitVec.extractLsb' 0 8 s.v0.l0), (BitVec.extractLsb' 8 8 s.v0.l0), (BitVec.extractLsb' 16 8 s.v0.l0), (BitVec.extractLsb' 24 8 s.v0.l0), (BitVec.extractLsb' 32 8 s.v0.l0), (BitVec.extractLsb' 40 8 s.v0.l0), (BitVec.extractLsb' 48 8 s.v0.l0), (BitVec.extractLsb' 56 8 s.v0.l0), (BitVec.extractLsb' 0 8 s.v0.l1), (BitVec.extractLsb' 8 8 s.v0.l1), (BitVec.extractLsb' 16 8 s.v0.l1), (BitVec.extractLsb' 24 8 s.v0.l1), (BitVec.extractLsb' 32 8 s.v0.l1), (BitVec.extractLsb' 40 8 s.v0.l1), (BitVec.extractLsb' 48 8 s.v0.l1), (BitVec.extractLsb' 56 8 s.v0.l1), (BitVec.extractLsb' 0 8 s.v0.l2), (BitVec.extractLsb' 8 8 s.v0.l2), (BitVec.extractLsb' 16 8 s.v0.l2), (BitVec.extractLsb' 24 8 s.v0.l2), (BitVec.extractLsb' 32 8 s.v0.l2), (BitVec.extractLsb' 40 8 s.v0.l2), (BitVec.extractLsb' 48 8 s.v0.l2), (BitVec.extractLsb' 56 8 s.v0.l2), (BitVec.extractLsb' 0 8 s.v0.l3), (BitVec.extractLsb' 8 8 s.v0.l3), (BitVec.extractLsb' 16 8 s.v0.l3), (BitVec.extractLsb' 24 8 s.v0.l3), (BitVec.extractLsb' 32 8 s.v0.l3), (BitVec.extractLsb' 40 8 s.v0.l3), (BitVec.extractLsb' 48 8 s.v0.l3), (BitVec.extractLsb' 56 8 s.v0.l3), (BitVec.extractLsb' 0 8 s.v1.l0), (BitVec.extractLsb' 8 8 s.v1.l0), (BitVec.extractLsb' 16 8 s.v1.l0), (BitVec.extractLsb' 24 8 s.v1.l0), (BitVec.extractLsb' 32 8 s.v1.l0), (BitVec.extractLsb' 40 8 s.v1.l0), (BitVec.extractLsb' 48 8 s.v1.l0), (BitVec.extractLsb' 56 8 s.v1.l0), (BitVec.extractLsb' 0 8 s.v1.l1), (BitVec.extractLsb' 8 8 s.v1.l1), (BitVec.extractLsb' 16 8 s.v1.l1), (BitVec.extractLsb' 24 8 s.v1.l1), (BitVec.extractLsb' 32 8 s.v1.l1), (BitVec.extractLsb' 40 8 s.v1.l1), (BitVec.extractLsb' 48 8 s.v1.l1), (BitVec.extractLsb' 56 8 s.v1.l1), (BitVec.extractLsb' 0 8 s.v1.l2), (BitVec.extractLsb' 8 8 s.v1.l2), (BitVec.extractLsb' 16 8 s.v1.l2), (BitVec.extractLsb' 24 8 s.v1.l2), (BitVec.extractLsb' 32 8 s.v1.l2), (BitVec.extractLsb' 40 8 s.v1.l2), (BitVec.extractLsb' 48 8 s.v1.l2), (BitVec.extractLsb' 56 8 s.v1.l2), (BitVec.extractLsb' 0 8 s.v1.l3), (BitVec.extractLsb' 8 8 s.v1.l3), (BitVec.extractLsb' 16 8 s.v1.l3), (BitVec.extractLsb' 24 8 s.v1.l3), (BitVec.extractLsb' 32 8 s.v1.l3), (BitVec.extractLsb' 40 8 s.v1.l3), (BitVec.extractLsb' 48 8 s.v1.l3), (BitVec.extractLsb' 56 8 s.v1.l3), (BitVec.extractLsb' 0 8 s.mul0.l0), (BitVec.extractLsb' 8 8 s.mul0.l0), (BitVec.extractLsb' 16 8 s.mul0.l0), (BitVec.extractLsb' 24 8 s.mul0.l0), (BitVec.extractLsb' 32 8 s.mul0.l0), (BitVec.extractLsb' 40 8 s.mul0.l0), (BitVec.extractLsb' 48 8 s.mul0.l0), (BitVec.extractLsb' 56 8 s.mul0.l0), (BitVec.extractLsb' 0 8 s.mul0.l1), (BitVec.extractLsb' 8 8 s.mul0.l1), (BitVec.extractLsb' 16 8 s.mul0.l1), (BitVec.extractLsb' 24 8 s.mul0.l1), (BitVec.extractLsb' 32 8 s.mul0.l1), (BitVec.extractLsb' 40 8 s.mul0.l1), (BitVec.extractLsb' 48 8 s.mul0.l1), (BitVec.extractLsb' 56 8 s.mul0.l1), (BitVec.extractLsb' 0 8 s.mul0.l2), (BitVec.extractLsb' 8 8 s.mul0.l2), (BitVec.extractLsb' 16 8 s.mul0.l2), (BitVec.extractLsb' 24 8 s.mul0.l2), (BitVec.extractLsb' 32 8 s.mul0.l2), (BitVec.extractLsb' 40 8 s.mul0.l2), (BitVec.extractLsb' 48 8 s.mul0.l2), (BitVec.extractLsb' 56 8 s.mul0.l2), (BitVec.extractLsb' 0 8 s.mul0.l3), (BitVec.extractLsb' 8 8 s.mul0.l3), (BitVec.extractLsb' 16 8 s.mul0.l3), (BitVec.extractLsb' 24 8 s.mul0.l3), (BitVec.extractLsb' 32 8 s.mul0.l3), (BitVec.extractLsb' 40 8 s.mul0.l3), (BitVec.extractLsb' 48 8 s.mul0.l3), (BitVec.extractLsb' 56 8 s.mul0.l3), (BitVec.extractLsb' 0 8 s.mul1.l0), (BitVec.extractLsb' 8 8 s.mul1.l0), (BitVec.extractLsb' 16 8 s.mul1.l0), (BitVec.extractLsb' 24 8 s.mul1.l0), (BitVec.extractLsb' 32 8 s.mul1.l0), (BitVec.extractLsb' 40 8 s.mul1.l0), (BitVec.extractLsb' 48 8 s.mul1.l0), (BitVec.extractLsb' 56 8 s.mul1.l0), (BitVec.extractLsb' 0 8 s.mul1.l1), (BitVec.extractLsb' 8 8 s.mul1.l1), (BitVec.extractLsb' 16 8 s.mul1.l1), (BitVec.extractLsb' 24 8 s.mul1.l1), (BitVec.extractLsb' 32 8 s.mul1.l1), (BitVec.extractLsb' 40 8 s.mul1.l1), (BitVec.extractLsb' 48 8 s.mul1.l1), (BitVec.extractLsb' 56 8 s.mul1.l1), (BitVec.extractLsb' 0 8 s.mul1.l2), (BitVec.extractLsb' 8 8 s.mul1.l2), (BitVec.extractLsb' 16 8 s.mul1.l2), (BitVec.extractLsb' 24 8 s.mul1.l2), (BitVec.extractLsb' 32 8 s.mul1.l2), (BitVec.extractLsb' 40 8 s.mul1.l2), (BitVec.extractLsb' 48 8 s.mul1.l2), (BitVec.extractLsb' 56 8 s.mul1.l2), (BitVec.extractLsb' 0 8 s.mul1.l3), (BitVec.extractLsb' 8 8 s.mul1.l3), (BitVec.extractLsb' 16 8 s.mul1.l3), (BitVec.extractLsb' 24 8 s.mul1.l3), (BitVec.extractLsb' 32 8 s.mul1.l3), (BitVec.extractLsb' 40 8 s.mul1.l3), (BitVec.extractLsb' 48 8 s.mul1.l3), (BitVec.extractLsb' 56 8 s.mul1.l3), b0, b1, b2, b3, b4, b5, b6, b7, b8, b9, b10, b11, b12, b13, b14, b15, b16, (0#8), (0#8), (0#8), (0#8), (0#8), (0#8), (0#8), (0#8), (0#8), (0#8), (0#8), (0#8), (0#8), (0#8), (0#8), (BitVec.extractLsb' 0 8 (17#32)), (BitVec.extractLsb' 8 8 (17#32)), (BitVec.extractLsb' 16 8 (17#32)), (BitVec.extractLsb' 24 8 (17#32))]
def checkpoint18 (s : St) (b0 b1 b2 b3 b4 b5 b6 b7 b8 b9 b10 b11 b12 b13 b14 b15 b16 b17 b18 b19 b20 b21 b22 b23 b24 b25 b26 b27 b28 b29 b30 b31 : BitVec 8) : List (BitVec 8) :=
  [(BitVec.extractLsb' 0 8 s.v0.l0), (BitVec.extractLsb' 8 8 s.v0.l0), (BitVec.extractLsb' 16 8 s.v0.l0), (BitVec.extractLsb' 24 8 s.v0.l0), (BitVec.extractLsb' 32 8 s.v0.l0), (BitVec.extractLsb' 40 8 s.v0.l0), (BitVec.extractLsb' 48 8 s.v0.l0), (BitVec.extractLsb' 56 8 s.v0.l0), (BitVec.extractLsb' 0 8 s.v0.l1), (BitVec.extractLsb' 8 8 s.v0.l1), (BitVec.extractLsb' 16 8 s.v0.l1), (BitVec.extractLsb' 24 8 s.v0.l1), (BitVec.extractLsb' 32 8 s.v0.l1), (BitVec.extractLsb' 40 8 s.v0.l1), (BitVec.extractLsb' 48 8 s.v0.l1), (BitVec.extractLsb' 56 8 s.v0.l1), (BitVec.extractLsb' 0 8 s.v0.l2), (BitVec.extractLsb' 8 8 s.v0.l2), (BitVec.extractLsb' 16 8 s.v0.l2), (BitVec.extractLsb' 24 8 s.v0.l2), (BitVec.extractLsb' 32 8 s.v0.l2), (BitVec.extractLsb' 40 8 s.v0.l2), (BitVec.extractLsb' 48 8 s.v0.l2), (BitVec.extractLsb' 56 8 s.v0.l2), (BitVec.extractLsb' 0 8 s.v0.l3), (BitVec.extractLsb' 8 8 s.v0.l3), (BitVec.extractLsb' 16 8 s.v0.l3), (BitVec.extractLsb' 24 8 s.v0.l3), (BitVec.extractLsb' 32 8 s.v0.l3), (BitVec.extractLsb' 40 8 s.v0.l3), (BitVec.extractLsb' 48 8 s.v0.l3), (BitVec.extractLsb' 56 8 s.v0.l3), (BitVec.extractLsb' 0 8 s.v1.l0), (BitVec.extractLsb' 8 8 s.v1.l0), (BitVec.extractLsb' 16 8 s.v1.l0), (BitVec.extractLsb' 24 8 s.v1.l0), (BitVec.extractLsb' 32 8 s.v1.l0), (BitVec.extractLsb' 40 8 s.v1.l0), (BitVec.extractLsb' 48 8 s.v1.l0), (BitVec.extractLsb' 56 8 s.v1.l0), (BitVec.extractLsb' 0 8 s.v1.l1), (BitVec.extractLsb' 8 8 s.v1.l1), (BitVec.extractLsb' 16 8 s.v1.l1), (BitVec.extractLsb' 24 8 s.v1.l1), (BitVec.extractLsb' 32 8 s.v1.l1), (BitVec.extractLsb' 40 8 s.v1.l1), (BitVec.extractLsb' 48 8 s.v1.l1), (BitVec.extractLsb' 56 8 s.v1.l1), (BitVec.extractLsb' 0 8 s.v1.l2), (BitVec.extractLsb' 8 8 s.v1.l2), (BitVec.extractLsb' 16 8 s.v1.l2), (BitVec.extractLsb' 24 8 s.v1.l2), (BitVec.extractLsb' 32 8 s.v1.l2), (BitVec.extractLsb' 40 8 s.v1.l2), (BitVec.extractLsb' 48 8 s.v1.l2), (BitVec.extractLsb' 56 8 s.v1.l2), (BitVec.extractLsb' 0 8 s.v1.l3), (BitVec.extractLsb' 8 8 s.v1.l3), (BitVec.extractLsb' 16 8 s.v1.l3), (BitVec.extractLsb' 24 8 s.v1.l3), (BitVec.extractLsb' 32 8 s.v1.l3), (BitVec.extractLsb' 40 8 s.v1.l3), (BitVec.extractLsb' 48 8 s.v1.l3), (BitVec.extractLsb' 56 8 s.v1.l3), (BitVec.extractLsb' 0 8 s.mul0.l0), (BitVec.extractLsb' 8 8 s.mul0.l0), (BitVec.extractLsb' 16 8 s.mul0.l0), (BitVec.extractLsb' 24 8 s.mul0.l0), (BitVec.extractLsb' 32 8 s.mul0.l0), (BitVec.extractLsb' 40 8 s.mul0.l0), (BitVec.extractLsb' 48 8 s.mul0.l0), (BitVec.extractLsb' 56 8 s.mul0.l0), (BitVec.extractLsb' 0 8 s.mul0.l1), (BitVec.extractLsb' 8 8 s.mul0.l1), (BitVec.extractLsb' 16 8 s.mul0.l1), (BitVec.extractLsb' 24 8 s.mul0.l1), (BitVec.extractLsb' 32 8 s.mul0.l1), (BitVec.extractLsb' 40 8 s.mul0.l1), (BitVec.extractLsb' 48 8 s.mul0.l1), (BitVec.extractLsb' 56 8 s.mul0.l1), (BitVec.extractLsb' 0 8 s.mul0.l2), (BitVec.extractLsb' 8 8 s.mul0.l2), (BitVec.extractLsb' 16 8 s.mul0.l2), (BitVec.extractLsb' 24 8 s.mul0.l2), (BitVec.extractLsb' 32 8 s.mul0.l2), (BitVec.extractLsb' 40 8 s.mul0.l2), (BitVec.extractLsb' 48 8 s.mul0.l2), (BitVec.extractLsb' 56 8 s.mul0.l2), (BitVec.extractLsb' 0 8 s.mul0.l3), (BitVec.extractLsb' 8 8 s.mul0.l3), (BitVec.extractLsb' 16 8 s.mul0.l3), (BitVec.extractLsb' 24 8 s.mul0.l3), (BitVec.extractLsb' 32 8 s.mul0.l3), (BitVec.extractLsb' 40 8 s.mul0.l3), (BitVec.extractLsb' 48 8 s.mul0.l3), (BitVec.extractLsb' 56 8 s.mul0.l3), (BitVec.extractLsb' 0 8 s.mul1.l0), (BitVec.extractLsb' 8 8 s.mul1.l0), (BitVec.extractLsb' 16 8 s.mul1.l0), (BitVec.extractLsb' 24 8 s.mul1.l0), (BitVec.extractLsb' 32 8 s.mul1.l0), (BitVec.extractLsb' 40 8 s.mul1.l0), (BitVec.extractLsb' 48 8 s.mul1.l0), (BitVec.extractLsb' 56 8 s.mul1.l0), (BitVec.extractLsb' 0 8 s.mul1.l1), (BitVec.extractLsb' 8 8 s.mul1.l1), (BitVec.extractLsb' 16 8 s.mul1.l1), (BitVec.extractLsb' 24 8 s.mul1.l1), (BitVec.extractLsb' 32 8 s.mul1.l1), (BitVec.extractLsb' 40 8 s.mul1.l1), (BitVec.extractLsb' 48 8 s.mul1.l1), (BitVec.extractLsb' 56 8 s.mul1.l1), (BitVec.extractLsb' 0 8 s.mul1.l2), (BitVec.extractLsb' 8 8 s.mul1.l2), (BitVec.extractLsb' 16 8 s.mul1.l2), (BitVec.extractLsb' 24 8 s.mul1.l2), (BitVec.extractLsb' 32 8 s.mul1.l2), (BitVec.extractLsb' 40 8 s.mul1.l2), (BitVec.extractLsb' 48 8 s.mul1.l2), (BitVec.extractLsb' 56 8 s.mul1.l2), (BitVec.extractLsb' 0 8 s.mul1.l3), (BitVec.extractLsb' 8 8 s.mul1.l3), (BitVec.extractLsb' 16 8 s.mul1.l3), (BitVec.extractLsb' 24 8 s.mul1.l3), (BitVec.extractLsb' 32 8 s.mul1.l3), (BitVec.extractLsb' 40 8 s.mul1.l3), (BitVec.extractLsb' 48 8 s.mul1.l3), (BitVec.extractLsb' 56 8 s.mul1.l3), b0, b1, b2, b3, b4, b5, b6, b7, b8, b9, b10, b11, b12, b13, b14, b15, b16, b17, (0#8), (0#8), (0#8), (0#8), (0#8), (0#8), (0#8), (0#8), (0#8), (0#8), (0#8), (0#8), (0#8), (0#8), (BitVec.extractLsb' 0 8 (18#32)), (BitVec.extractLsb' 8 8 (18#32)), (BitVec.extractLsb' 16 8 (18#32)), (BitVec.extractLsb' 24 8 (18#32))]
def checkpoint19 (s : St) (b0 b1 b2 b3 b4 b5 b6 b7 b8 b9 b10 b11 b12 b13 b14 b15 b16 b17 b18 b19 b20 b21 b22 b23 b24 b25 b26 b27 b28 b29 b30 b31 : BitVec 8) : List (BitVec 8) :=
  [(BitVec.extractLsb' 0 8 s.v0.l0), (BitVec.extractLsb' 8 8 s.v0.l0), (BitVec.extractLsb' 16 8 s.v0.l0), (BitVec.extractLsb' 24 8 s.v0.l0), (BitVec.extractLsb' 32 8 s.v0.l0), (BitVec.extractLsb' 40 8 s.v0.l0), (BitVec.extractLsb' 48 8 s.v0.l0), (BitVec.extractLsb' 56 8 s.v0.l0), (BitVec.extractLsb' 0 8 s.v0.l1), (BitVec.extractLsb' 8 8 s.v0.l1), (BitVec.extractLsb' 16 8 s.v0.l1), (BitVec.extractLsb' 24 8 s.v0.l1), (BitVec.extractLsb' 32 8 s.v0.l1), (BitVec.extractLsb' 40 8 s.v0.l1), (BitVec.extractLsb' 48 8 s.v0.l1), (BitVec.extractLsb' 56 8 s.v0.l1), (BitVec.extractLsb' 0 8 s.v0.l2), (BitVec.extractLsb' 8 8 s.v0.l2), (BitVec.extractLsb' 16 8 s.v0.l2), (BitVec.extractLsb' 24 8 s.v0.l2), (BitVec.extractLsb' 32 8 s.v0.l2), (BitVec.extractLsb' 40 8 s.v0.l2), (BitVec.extractLsb' 48 8 s.v0.l2), (BitVec.extractLsb' 56 8 s.v0.l2), (BitVec.extractLsb' 0 8 s.v0.l3), (BitVec.extractLsb' 8 8 s.v0.l3), (BitVec.extractLsb' 16 8 s.v0.l3), (BitVec.extractLsb' 24 8 s.v0.l3), (BitVec.extractLsb' 32 8 s.v0.l3), (BitVec.extractLsb' 40 8 s.v0.l3), (BitVec.extractLsb' 48 8 s.v0.l3), (BitVec.extractLsb' 56 8 s.v0.l3), (BitVec.extractLsb' 0 8 s.v1.l0), (BitVec.extractLsb' 8 8 s.v1.l0), (BitVec.extractLsb' 16 8 s.v1.l0), (BitVec.extractLsb' 24 8 s.v1.l0), (BitVec.extractLsb' 32 8 s.v1.l0), (BitVec.extractLsb' 40 8 s.v1.l0), (BitVec.extractLsb' 48 8 s.v1.l0), (BitVec.extractLsb' 56 8 s.v1.l0), (BitVec.extractLsb' 0 8 s.v1.l1), (BitVec.extractLsb' 8 8 s.v1.l1), (BitVec.extractLsb' 16 8 s.v1.l1), (BitVec.extractLsb' 24 8 s.v1.l1), (BitVec.extractLsb' 32 8 s.v1.l1), (BitVec.extractLsb' 40 8 s.v1.l1), (BitVec.extractLsb' 48 8 s.v1.l1), (BitVec.extractLsb' 56 8 s.v1.l1), (BitVec.extractLsb' 0 8 s.v1.l2), (BitVec.extractLsb' 8 8 s.v1.l2), (BitVec.extractLsb' 16 8 s.v1.l2), (BitVec.extractLsb' 24 8 s.v1.l2), (BitVec.extractLsb' 32 8 s.v1.l2), (BitVec.extractLsb' 40 8 s.v1.l2), (BitVec.extractLsb' 48 8 s.v1.l2), (BitVec.extractLsb' 56 8 s.v1.l2), (BitVec.extractLsb' 0 8 s.v1.l3), (BitVec.extractLsb' 8 8 s.v1.l3), (BitVec.extractLsb' 16 8 s.v1.l3), (BitVec.extractLsb' 24 8 s.v1.l3), (BitVec.extractLsb' 32 8 s.v1.l3), (BitVec.extractLsb' 40 8 s.v1.l3), (BitVec.extractLsb' 48 8 s.v1.l3), (BitVec.extractLsb' 56 8 s.v1.l3), (BitVec.extractLsb' 0 8 s.mul0.l0), (BitVec.extractLsb' 8 8 s.mul0.l0), (BitVec.extractLsb' 16 8 s.mul0.l0), (BitVec.extractLsb' 24 8 s.mul0.l0), (BitVec.extractLsb' 32 8 s.mul0.l0), (BitVec.extractLsb' 40 8 s.mul0.l0), (BitVec.extractLsb' 48 8 s.mul0.l0), (BitVec.extractLsb' 56 8 s.mul0.l0), (BitVec.extractLsb' 0 8 s.mul0.l1), (BitVec.extractLsb' 8 8 s.mul0.l1), (BitVec.extractLsb' 16 8 s.mul0.l1), (BitVec.extractLsb' 24 8 s.mul0.l1), (BitVec.extractLsb' 32 8 s.mul0.l1), (BitVec.extractLsb' 40 8 s.mul0.l1), (BitVec.extractLsb' 48 8 s.mul0.l1), (BitVec.extractLsb' 56 8 s.mul0.l1), (BitVec.extractLsb' 0 8 s.mul0.l2), (BitVec.extractLsb' 8 8 s.mul0.l2), (BitVec.extractLsb' 16 8 s.mul0.l2), (BitVec.extractLsb' 24 8 s.mul0.l2), (BitVec.extractLsb' 32 8 s.mul0.l2), (BitVec.extractLsb' 40 8 s.mul0.l2), (BitVec.extractLsb' 48 8 s.mul0.l2), (BitVec.extractLsb' 56 8 s.mul0.l2), (BitVec.extractLsb' 0 8 s.mul0.l3), (BitVec.extractLsb' 8 8 s.mul0.l3), (BitVec.extractLsb' 16 8 s.mul0.l3), (BitVec.extractLsb' 24 8 s.mul0.l3), (BitVec.extractLsb' 32 8 s.mul0.l3), (BitVec.extractLsb' 40 8 s.mul0.l3), (BitVec.extractLsb' 48 8 s.mul0.l3), (BitVec.extractLsb' 56 8 s.mul0.l3), (BitVec.extractLsb' 0 8 s.mul1.l0), (BitVec.extractLsb' 8 8 s.mul1.l0), (BitVec.extractLsb' 16 8 s.mul1.l0), (BitVec.extractLsb' 24 8 s.mul1.l0), (BitVec.extractLsb' 32 8 s.mul1.l0), (BitVec.extractLsb' 40 8 s.mul1.l0), (BitVec.extractLsb' 48 8 s.mul1.l0), (BitVec.extractLsb' 56 8 s.mul1.l0), (BitVec.extractLsb' 0 8 s.mul1.l1), (BitVec.extractLsb' 8 8 s.mul1.l1), (BitVec.extractLsb' 16 8 s.mul1.l1), (BitVec.extractLsb' 24 8 s.mul1.l1), (BitVec.extractLsb' 32 8 s.mul1.l1), (BitVec.extractLsb' 40 8 s.mul1.l1), (BitVec.extractLsb' 48 8 s.mul1.l1), (BitVec.extractLsb' 56 8 s.mul1.l1), (BitVec.extractLsb' 0 8 s.mul1.l2), (BitVec.extractLsb' 8 8 s.mul1.l2), (BitVec.extractLsb' 16 8 s.mul1.l2), (BitVec.extractLsb' 24 8 s.mul1.l2), (BitVec.extractLsb' 32 8 s.mul1.l2), (BitVec.extractLsb' 40 8 s.mul1.l2), (BitVec.extractLsb' 48 8 s.mul1.l2), (BitVec.extractLsb' 56 8 s.mul1.l2), (BitVec.extractLsb' 0 8 s.mul1.l3), (BitVec.extractLsb' 8 8 s.mul1.l3), (BitVec.extractLsb' 16 8 s.mul1.l3), (BitVec.extractLsb' 24 8 s.mul1.l3), (BitVec.extractLsb' 32 8 s.mul1.l3), (BitVec.extractLsb' 40 8 s.mul1.l3), (BitVec.extractLsb' 48 8 s.mul1.l3), (BitVec.extractLsb' 56 8 s.mul1.l3), b0, b1, b2, b3, b4, b5, b6, b7, b8, b9, b10, b11, b12, b13, b14, b15, b16, b17, b18, (0#8), (0#8), (0#8), (0#8), (0#8), (0#8), (0#8), (0#8), (0#8), (0#8), (0#8), (0#8), (0#8), (BitVec.extractLsb' 0 8 (19#32)), (BitVec.extractLsb' 8 8 (19#32)), (BitVec.extractLsb' 16 8 (19#32)), (BitVec.extractLsb' 24 8 (19#32))]
def checkpoint20 (s : St) (b0 b1 b2 b3 b4 b5 b6 b7 b8 b9 b10 b11 b12 b13 b14 b15 b16 b17 b18 b19 b20 b21 b22 b23 b24 b25 b26 b27 b28 b29 b30 b31 : BitVec 8) : List (BitVec 8) :=
  [(BitVec.extractLsb' 0 8 s.v0.l0), (BitVec.extractLsb' 8 8 s.v0.l0), (BitVec.extractLsb' 16 8 s.v0.l0), (BitVec.extractLsb' 24 8 s.v0.l0), (BitVec.extractLsb' 32 8 s.v0.l0), (BitVec.extractLsb' 40 8 s.v0.l0), (BitVec.extractLsb' 48 8 s.v0.l0), (BitVec.extractLsb' 56 8 s.v0.l0), (BitVec.extractLsb' 0 8 s.v0.l1), (BitVec.extractLsb' 8 8 s.v0.l1), (BitVec.extractLsb' 16 8 s.v0.l1), (BitVec.extractLsb' 24 8 s.v0.l1), (BitVec.extractLsb' 32 8 s.v0.l1), (BitVec.extractLsb' 40 8 s.v0.l1), (BitVec.extractLsb' 48 8 s.v0.l1), (BitVec.extractLsb' 56 8 s.v0.l1), (BitVec.extractLsb' 0 8 s.v0.l2), (BitVec.extractLsb' 8 8 s.v0.l2), (BitVec.extractLsb' 16 8 s.v0.l2), (BitVec.extractLsb' 24 8 s.v0.l2), (BitVec.extractLsb' 32 8 s.v0.l2), (BitVec.extractLsb' 40 8 s.v0.l2), (BitVec.extractLsb' 48 8 s.v0.l2), (BitVec.extractLsb' 56 8 s.v0.l2), (BitVec.extractLsb' 0 8 s.v0.l3), (BitVec.extractLsb' 8 8 s.v0.l3), (BitVec.extractLsb' 16 8 s.v0.l3), (BitVec.extractLsb' 24 8 s.v0.l3), (BitVec.extractLsb' 32 8 s.v0.l3), (BitVec.extractLsb' 40 8 s.v0.l3), (BitVec.extractLsb' 48 8 s.v0.l3), (BitVec.extractLsb' 56 8 s.v0.l3), (BitVec.extractLsb' 0 8 s.v1.l0), (BitVec.extractLsb' 8 8 s.v1.l0), (BitVec.extractLsb' 16 8 s.v1.l0), (BitVec.extractLsb' 24 8 s.v1.l0), (BitVec.extractLsb' 32 8 s.v1.l0), (BitVec.extractLsb' 40 8 s.v1.l0), (BitVec.extractLsb' 48 8 s.v1.l0), (BitVec.extractLsb' 56 8 s.v1.l0), (BitVec.extractLsb' 0 8 s.v1.l1), (BitVec.extractLsb' 8 8 s.v1.l1), (BitVec.extractLsb' 16 8 s.v1.l1), (BitVec.extractLsb' 24 8 s.v1.l1), (BitVec.extractLsb' 32 8 s.v1.l1), (BitVec.extractLsb' 40 8 s.v1.l1), (BitVec.extractLsb' 48 8 s.v1.l1), (BitVec.extractLsb' 56 8 s.v1.l1), (BitVec.extractLsb' 0 8 s.v1.l2), (BitVec.extractLsb' 8 8 s.v1.l2), (BitVec.extractLsb' 16 8 s.v1.l2), (BitVec.extractLsb' 24 8 s.v1.l2), (BitVec.extractLsb' 32 8 s.v1.l2), (BitVec.extractLsb' 40 8 s.v1.l2), (BitVec.extractLsb' 48 8 s.v1.l2), (BitVec.extractLsb' 56 8 s.v1.l2), (BitVec.extractLsb' 0 8 s.v1.l3), (BitVec.extractLsb' 8 8 s.v1.l3), (BitVec.extractLsb' 16 8 s.v1.l3), (BitVec.extractLsb' 24 8 s.v1.l3), (BitVec.extractLsb' 32 8 s.v1.l3), (BitVec.extractLsb' 40 8 s.v1.l3), (BitVec.extractLsb' 48 8 s.v1.l3), (BitVec.extractLsb' 56 8 s.v1.l3), (BitVec.extractLsb' 0 8 s.mul0.l0), (BitVec.extractLsb' 8 8 s.mul0.l0), (BitVec.extractLsb' 16 8 s.mul0.l0), (BitVec.extractLsb' 24 8 s.mul0.l0), (BitVec.extractLsb' 32 8 s.mul0.l0), (BitVec.extractLsb' 40 8 s.mul0.l0), (BitVec.extractLsb' 48 8 s.mul0.l0), (BitVec.extractLsb' 56 8 s.mul0.l0), (BitVec.extractLsb' 0 8 s.mul0.l1), (BitVec.extractLsb' 8 8 s.mul0.l1), (BitVec.extractLsb' 16 8 s.mul0.l1), (BitVec.extractLsb' 24 8 s.mul0.l1), (BitVec.extractLsb' 32 8 s.mul0.l1), (BitVec.extractLsb' 40 8 s.mul0.l1), (BitVec.extractLsb' 48 8 s.mul0.l1), (BitVec.extractLsb' 56 8 s.mul0.l1), (BitVec.extractLsb' 0 8 s.mul0.l2), (BitVec.extractLsb' 8 8 s.mul0.l2), (BitVec.extractLsb' 16 8 s.mul0.l2), (BitVec.extractLsb' 24 8 s.mul0.l2), (BitVec.extractLsb' 32 8 s.mul0.l2), (BitVec.extractLsb' 40 8 s.mul0.l2), (BitVec.extractLsb' 48 8 s.mul0.l2), (BitVec.extractLsb' 56 8 s.mul0.l2), (BitVec.extractLsb' 0 8 s.mul0.l3), (BitVec.extractLsb' 8 8 s.mul0.l3), (BitVec.extractLsb' 16 8 s.mul0.l3), (BitVec.extractLsb' 24 8 s.mul0.l3), (BitVec.extractLsb' 32 8 s.mul0.l3), (BitVec.extractLsb' 40 8 s.mul0.l3), (BitVec.extractLsb' 48 8 s.mul0.l3), (BitVec.extractLsb' 56 8 s.mul0.l3), (BitVec.extractLsb' 0 8 s.mul1.l0), (BitVec.extractLsb' 8 8 s.mul1.l0), (BitVec.extractLsb' 16 8 s.mul1.l0), (BitVec.extractLsb' 24 8 s.mul1.l0), (BitVec.extractLsb' 32 8 s.mul1.l0), (BitVec.extractLsb' 40 8 s.mul1.l0), (BitVec.extractLsb' 48 8 s.mul1.l0), (BitVec.extractLsb' 56 8 s.mul1.l0), (BitVec.extractLsb' 0 8 s.mul1.l1), (BitVec.extractLsb' 8 8 s.mul1.l1), (BitVec.extractLsb' 16 8 s.mul1.l1), (BitVec.extractLsb' 24 8 s.mul1.l1), (BitVec.extractLsb' 32 8 s.mul1.l1), (BitVec.extractLsb' 40 8 s.mul1.l1), (BitVec.extractLsb' 48 8 s.mul1.l1), (BitVec.extractLsb' 56 8 s.mul1.l1), (BitVec.extractLsb' 0 8 s.mul1.l2), (BitVec.extractLsb' 8 8 s.mul1.l2), (BitVec.extractLsb' 16 8 s.mul1.l2), (BitVec.extractLsb' 24 8 s.mul1.l2), (BitVec.extractLsb' 32 8 s.mul1.l2), (BitVec.extractLsb' 40 8 s.mul1.l2), (BitVec.extractLsb' 48 8 s.mul1.l2), (BitVec.extractLsb' 56 8 s.mul1.l2), (BitVec.extractLsb' 0 8 s.mul1.l3), (BitVec.extractLsb' 8 8 s.mul1.l3), (BitVec.extractLsb' 16 8 s.mul1.l3), (BitVec.extractLsb' 24 8 s.mul1.l3), (BitVec.extractLsb' 32 8 s.mul1.l3), (BitVec.extractLsb' 40 8 s.mul1.l3), (BitVec.extractLsb' 48 8 s.mul1.l3), (BitVec.extractLsb' 56 8 s.mul1.l3), b0, b1, b2, b3, b4, b5, b6, b7, b8, b9, b10, b11, b12, b13, b14, b15, b16, b17, b18, b19, (0#8), (0#8), (0#8), (0#8), (0#8), (0#8), (0#8), (0#8), (0#8), (0#8), (0#8), (0#8), (BitVec.extractLsb' 0 8 (20#32)), (BitVec.extractLsb' 8 8 (20#32)), (BitVec.extractLsb' 16 8 (20#32)), (BitVec.extractLsb' 24 8 (20#32))]
def checkpoint21 (s : St) (b0 b1 b2 b3 b4 b5 b6 b7 b8 b9 b10 b11 b12 b13 b14 b15 b16 b17 b18 b19 b20 b21 b22 b23 b24 b25 b26 b27 b28 b29 b30 b31 : BitVec 8) : List (BitVec 8) :=
  [(BitVec.extractLsb' 0 8 s.v0.l0), (BitVec.extractLsb' 8 8 s.v0.l0), (BitVec.extractLsb' 16 8 s.v0.l0), (BitVec.extractLsb' 24 8 s.v0.l0), (BitVec.extractLsb' 32 8 s.v0.l0), (BitVec.extractLsb' 40 8 s.v0.l0), (BitVec.extractLsb' 48 8 s.v0.l0), (BitVec.extractLsb' 56 8 s.v0.l0), (BitVec.extractLsb' 0 8 s.v0.l1), (BitVec.extractLsb' 8 8 s.v0.l1), (BitVec.extractLsb' 16 8 s.v0.l1), (BitVec.extractLsb' 24 8 s.v0.l1), (BitVec.extractLsb' 32 8 s.v0.l1), (BitVec.extractLsb' 40 8 s.v0.l1), (BitVec.extractLsb' 48 8 s.v0.l1), (BitVec.extractLsb' 56 8 s.v0.l1), (BitVec.extractLsb' 0 8 s.v0.l2), (BitVec.extractLsb' 8 8 s.v0.l2), (BitVec.extractLsb' 16 8 s.v0.l2), (BitVec.extractLsb' 24 8 s.v0.l2), (BitVec.extractLsb' 32 8 s.v0.l2), (BitVec.extractLsb' 40 8 s.v0.l2), (BitVec.extractLsb' 48 8 s.v0.l2), (BitVec.extractLsb' 56 8 s.v0.l2), (BitVec.extractLsb' 0 8 s.v0.l3), (BitVec.extractLsb' 8 8 s.v0.l3), (BitVec.extractLsb' 16 8 s.v0.l3), (BitVec.extractLsb' 24 8 s.v0.l3), (BitVec.extractLsb' 32 8 s.v0.l3), (BitVec.extractLsb' 40 8 s.v0.l3), (BitVec.extractLsb' 48 8 s.v0.l3), (BitVec.extractLsb' 56 8 s.v0.l3), (BitVec.extractLsb' 0 8 s.v1.l0), (BitVec.extractLsb' 8 8 s.v1.l0), (BitVec.extractLsb' 16 8 s.v1.l0), (BitVec.extractLsb' 24 8 s.v1.l0), (BitVec.extractLsb' 32 8 s.v1.l0), (BitVec.extractLsb' 40 8 s.v1.l0), (BitVec.extractLsb' 48 8 s.v1.l0), (BitVec.extractLsb' 56 8 s.v1.l0), (BitVec.extractLsb' 0 8 s.v1.l1), (BitVec.extractLsb' 8 8 s.v1.l1), (BitVec.extractLsb' 16 8 s.v1.l1), (BitVec.extractLsb' 24 8 s.v1.l1), (BitVec.extractLsb' 32 8 s.v1.l1), (BitVec.extractLsb' 40 8 s.v1.l1), (BitVec.extractLsb' 48 8 s.v1.l1), (BitVec.extractLsb' 56 8 s.v1.l1), (BitVec.extractLsb' 0 8 s.v1.l2), (BitVec.extractLsb' 8 8 s.v1.l2), (BitVec.extractLsb' 16 8 s.v1.l2), (BitVec.extractLsb' 24 8 s.v1.l2), (BitVec.extractLsb' 32 8 s.v1.l2), (BitVec.extractLsb' 40 8 s.v1.l2), (BitVec.extractLsb' 48 8 s.v1.l2), (BitVec.extractLsb' 56 8 s.v1.l2), (BitVec.extractLsb' 0 8 s.v1.l3), (BitVec.extractLsb' 8 8 s.v1.l3), (BitVec.extractLsb' 16 8 s.v1.l3), (BitVec.extractLsb' 24 8 s.v1.l3), (BitVec.extractLsb' 32 8 s.v1.l3), (BitVec.extractLsb' 40 8 s.v1.l3), (BitVec.extractLsb' 48 8 s.v1.l3), (BitVec.extractLsb' 56 8 s.v1.l3), (BitVec.extractLsb' 0 8 s.mul0.l0), (BitVec.extractLsb' 8 8 s.mul0.l0), (BitVec.extractLsb' 16 8 s.mul0.l0), (BitVec.extractLsb' 24 8 s.mul0.l0), (BitVec.extractLsb' 32 8 s.mul0.l0), (BitVec.extractLsb' 40 8 s.mul0.l0), (BitVec.extractLsb' 48 8 s.mul0.l0), (BitVec.extractLsb' 56 8 s.mul0.l0), (BitVec.extractLsb' 0 8 s.mul0.l1), (BitVec.extractLsb' 8 8 s.mul0.l1), (BitVec.extractLsb' 16 8 s.mul0.l1), (BitVec.extractLsb' 24 8 s.mul0.l1), (BitVec.extractLsb' 32 8 s.mul0.l1), (BitVec.extractLsb' 40 8 s.mul0.l1), (BitVec.extractLsb' 48 8 s.mul0.l1), (BitVec.extractLsb' 56 8 s.mul0.l1), (BitVec.extractLsb' 0 8 s.mul0.l2), (BitVec.extractLsb' 8 8 s.mul0.l2), (BitVec.extractLsb' 16 8 s.mul0.l2), (BitVec.extractLsb' 24 8 s.mul0.l2), (BitVec.extractLsb' 32 8 s.mul0.l2), (BitVec.extractLsb' 40 8 s.mul0.l2), (BitVec.extractLsb' 48 8 s.mul0.l2), (BitVec.extractLsb' 56 8 s.mul0.l2), (BitVec.extractLsb' 0 8 s.mul0.l3), (BitVec.extractLsb' 8 8 s.mul0.l3), (BitVec.extractLsb' 16 8 s.mul0.l3), (BitVec.extractLsb' 24 8 s.mul0.l3), (BitVec.extractLsb' 32 8 s.mul0.l3), (BitVec.extractLsb' 40 8 s.mul0.l3), (BitVec.extractLsb' 48 8 s.mul0.l3), (BitVec.extractLsb' 56 8 s.mul0.l3), (BitVec.extractLsb' 0 8 s.mul1.l0), (BitVec.extractLsb' 8 8 s.mul1.l0), (BitVec.extractLsb' 16 8 s.mul1.l0), (BitVec.extractLsb' 24 8 s.mul1.l0), (BitVec.extractLsb' 32 8 s.mul1.l0), (BitVec.extractLsb' 40 8 s.mul1.l0), (BitVec.extractLsb' 48 8 s.mul1.l0), (BitVec.extractLsb' 56 8 s.mul1.l0), (BitVec.extractLsb' 0 8 s.mul1.l1), (BitVec.extractLsb' 8 8 s.mul1.l1), (BitVec.extractLsb' 16 8 s.mul1.l1), (BitVec.extractLsb' 24 8 s.mul1.l1), (BitVec.extractLsb' 32 8 s.mul1.l1), (BitVec.extractLsb' 40 8 s.mul1.l1), (BitVec.extractLsb' 48 8 s.mul1.l1), (BitVec.extractLsb' 56 8 s.mul1.l1), (BitVec.extractLsb' 0 8 s.mul1.l2), (BitVec.extractLsb' 8 8 s.mul1.l2), (BitVec.extractLsb' 16 8 s.mul1.l2), (BitVec.extractLsb' 24 8 s.mul1.l2), (BitVec.extractLsb' 32 8 s.mul1.l2), (BitVec.extractLsb' 40 8 s.mul1.l2), (BitVec.extractLsb' 48 8 s.mul1.l2), (BitVec.extractLsb' 56 8 s.mul1.l2), (BitVec.extractLsb' 0 8 s.mul1.l3), (BitVec.extractLsb' 8 8 s.mul1.l3), (BitVec.extractLsb' 16 8 s.mul1.l3), (BitVec.extractLsb' 24 8 s.mul1.l3), (BitVec.extractLsb' 32 8 s.mul1.l3), (BitVec.extractLsb' 40 8 s.mul1.l3), (BitVec.extractLsb' 48 8 s.mul1.l3), (BitVec.extractLsb' 56 8 s.mul1.l3), b0, b1, b2, b3, b4, b5, b6, b7, b8, b9, b10, b11, b12, b13, b14, b15, b16, b17, b18, b19, b20, (0#8), (0#8), (0#8), (0#8), (0#8), (0#8), (0#8), (0#8), (0#8), (0#8), (0#8), (BitVec.extractLsb' 0 8 (21#32)), (BitVec.extractLsb' 8 8 (21#32)), (BitVec.extractLsb' 16 8 (21#32)), (BitVec.extractLsb' 24 8 (21#32))]
def checkpoint22 (s : St) (b0 b1 b2 b3 b4 b5 b6 b7 b8 b9 b10 b11 b12 b13 b14 b15 b16 b17 b18 b19 b20 b21 b22 b23 b24 b25 b26 b27 b28 b29 b30 b31 : BitVec 8) : List (BitVec 8) :=
  [(BitVec.extractLsb' 0 8 s.v0.l0), (BitVec.extractLsb' 8 8 s.v0.l0), (BitVec.extractLsb' 16 8 s.v0.l0), (BitVec.extractLsb' 24 8 s.v0.l0), (BitVec.extractLsb' 32 8 s.v0.l0), (BitVec.extractLsb' 40 8 s.v0.l0), (BitVec.extractLsb' 48 8 s.v0.l0), (BitVec.extractLsb' 56 8 s.v0.l0), (BitVec.extractLsb' 0 8 s.v0.l1), (BitVec.extractLsb' 8 8 s.v0.l1), (BitVec.extractLsb' 16 8 s.v0.l1), (BitVec.extractLsb' 24 8 s.v0.l1), (BitVec.extractLsb' 32 8 s.v0.l1), (BitVec.extractLsb' 40 8 s.v0.l1), (BitVec.extractLsb' 48 8 s.v0.l1), (BitVec.extractLsb' 56 8 s.v0.l1), (BitVec.extractLsb' 0 8 s.v0.l2), (BitVec.extractLsb' 8 8 s.v0.l2), (BitVec.extractLsb' 16 8 s.v0.l2), (BitVec.extractLsb' 24 8 s.v0.l2), (BitVec.extractLsb' 32 8 s.v0.l2), (BitVec.extractLsb' 40 8 s.v0.l2), (BitVec.extractLsb' 48 8 s.v0.l2), (BitVec.extractLsb' 56 8 s.v0.l2), (BitVec.extractLsb' 0 8 s.v0.l3), (BitVec.extractLsb' 8 8 s.v0.l3), (BitVec.extractLsb' 16 8 s.v0.l3), (BitVec.extractLsb' 24 8 s.v0.l3), (BitVec.extractLsb' 32 8 s.v0.l3), (BitVec.extractLsb' 40 8 s.v0.l3), (BitVec.extractLsb' 48 8 s.v0.l3), (BitVec.extractLsb' 56 8 s.v0.l3), (BitVec.extractLsb' 0 8 s.v1.l0), (BitVec.extractLsb' 8 8 s.v1.l0), (BitVec.extractLsb' 16 8 s.v1.l0), (BitVec.extractLsb' 24 8 s.v1.l0), (BitVec.extractLsb' 32 8 s.v1.l0), (BitVec.extractLsb' 40 8 s.v1.l0), (BitVec.extractLsb' 48 8 s.v1.l0), (BitVec.extractLsb' 56 8 s.v1.l0), (BitVec.extractLsb' 0 8 s.v1.l1), (BitVec.extractLsb' 8 8 s.v1.l1), (BitVec.extractLsb' 16 8 s.v1.l1), (BitVec.extractLsb' 24 8 s.v1.l1), (BitVec.extractLsb' 32 8 s.v1.l1), (BitVec.extractLsb' 40 8 s.v1.l1), (BitVec.extractLsb' 48 8 s.v1.l1), (BitVec.extractLsb' 56 8 s.v1.l1), (BitVec.extractLsb' 0 8 s.v1.l2), (BitVec.extractLsb' 8 8 s.v1.l2), (BitVec.extractLsb' 16 8 s.v1.l2), (BitVec.extractLsb' 24 8 s.v1.l2), (BitVec.extractLsb' 32 8 s.v1.l2), (BitVec.extractLsb' 40 8 s.v1.l2), (BitVec.extractLsb' 48 8 s.v1.l2), (BitVec.extractLsb' 56 8 s.v1.l2), (BitVec.extractLsb' 0 8 s.v1.l3), (BitVec.extractLsb' 8 8 s.v1.l3), (BitVec.extractLsb' 16 8 s.v1.l3), (BitVec.extractLsb' 24 8 s.v1.l3), (BitVec.extractLsb' 32 8 s.v1.l3), (BitVec.extractLsb' 40 8 s.v1.l3), (BitVec.extractLsb' 48 8 s.v1.l3), (BitVec.extractLsb' 56 8 s.v1.l3), (BitVec.extractLsb' 0 8 s.mul0.l0), (BitVec.extractLsb' 8 8 s.mul0.l0), (BitVec.extractLsb' 16 8 s.mul0.l0), (BitVec.extractLsb' 24 8 s.mul0.l0), (BitVec.extractLsb' 32 8 s.mul0.l0), (BitVec.extractLsb' 40 8 s.mul0.l0), (BitVec.extractLsb' 48 8 s.mul0.l0), (BitVec.extractLsb' 56 8 s.mul0.l0), (BitVec.extractLsb' 0 8 s.mul0.l1), (BitVec.extractLsb' 8 8 s.mul0.l1), (BitVec.extractLsb' 16 8 s.mul0.l1), (BitVec.extractLsb' 24 8 s.mul0.l1), (BitVec.extractLsb' 32 8 s.mul0.l1), (BitVec.extractLsb' 40 8 s.mul0.l1), (BitVec.extractLsb' 48 8 s.mul0.l1), (BitVec.extractLsb' 56 8 s.mul0.l1), (BitVec.extractLsb' 0 8 s.mul0.l2), (BitVec.extractLsb' 8 8 s.mul0.l2), (BitVec.extractLsb' 16 8 s.mul0.l2), (BitVec.extractLsb' 24 8 s.mul0.l2), (BitVec.extractLsb' 32 8 s.mul0.l2), (BitVec.extractLsb' 40 8 s.mul0.l2), (BitVec.extractLsb' 48 8 s.mul0.l2), (BitVec.extractLsb' 56 8 s.mul0.l2), (BitVec.extractLsb' 0 8 s.mul0.l3), (BitVec.extractLsb' 8 8 s.mul0.l3), (BitVec.extractLsb' 16 8 s.mul0.l3), (BitVec.extractLsb' 24 8 s.mul0.l3), (BitVec.extractLsb' 32 8 s.mul0.l3), (BitVec.extractLsb' 40 8 s.mul0.l3), (BitVec.extractLsb' 48 8 s.mul0.l3), (BitVec.extractLsb' 56 8 s.mul0.l3), (BitVec.extractLsb' 0 8 s.mul1.l0), (BitVec.extractLsb' 8 8 s.mul1.l0), (BitVec.extractLsb' 16 8 s.mul1.l0), (BitVec.extractLsb' 24 8 s.mul1.l0), (BitVec.extractLsb' 32 8 s.mul1.l0), (BitVec.extractLsb' 40 8 s.mul1.l0), (BitVec.extractLsb' 48 8 s.mul1.l0), (BitVec.extractLsb' 56 8 s.mul1.l0), (BitVec.extractLsb' 0 8 s.mul1.l1), (BitVec.extractLsb' 8 8 s.mul1.l1), (BitVec.extractLsb' 16 8 s.mul1.l1), (BitVec.extractLsb' 24 8 s.mul1.l1), (BitVec.extractLsb' 32 8 s.mul1.l1), (BitVec.extractLsb' 40 8 s.mul1.l1), (BitVec.extractLsb' 48 8 s.mul1.l1), (BitVec.extractLsb' 56 8 s.mul1.l1), (BitVec.extractLsb' 0 8 s.mul1.l2), (BitVec.extractLsb' 8 8 s.mul1.l2), (BitVec.extractLsb' 16 8 s.mul1.l2), (BitVec.extractLsb' 24 8 s.mul1.l2), (BitVec.extractLsb' 32 8 s.mul1.l2), (BitVec.extractLsb' 40 8 s.mul1.l2), (BitVec.extractLsb' 48 8 s.mul1.l2), (BitVec.extractLsb' 56 8 s.mul1.l2), (BitVec.extractLsb' 0 8 s.mul1.l3), (BitVec.extractLsb' 8 8 s.mul1.l3), (BitVec.extractLsb' 16 8 s.mul1.l3), (BitVec.extractLsb' 24 8 s.mul1.l3), (BitVec.extractLsb' 32 8 s.mul1.l3), (BitVec.extractLsb' 40 8 s.mul1.l3), (BitVec.extractLsb' 48 8 s.mul1.l3), (BitVec.extractLsb' 56 8 s.mul1.l3), b0, b1, b2, b3, b4, b5, b6, b7, b8, b9, b10, b11, b12, b13, b14, b15, b16, b17, b18, b19, b20, b21, (0#8), (0#8), (0#8), (0#8), (0#8), (0#8), (0#8), (0#8), (0#8), (0#8), (BitVec.extractLsb' 0 8 (22#32)), (BitVec.extractLsb' 8 8 (22#32)), (BitVec.extractLsb' 16 8 (22#32)), (BitVec.extractLsb' 24 8 (22#32))]
def checkpoint23 (s : St) (b0 b1 b2 b3 b4 b5 b6 b7 b8 b9 b10 b11 b12 b13 b14 b15 b16 b17 b18 b19 b20 b21 b22 b23 b24 b25 b26 b27 b28 b29 b30 b31 : BitVec 8) : List (BitVec 8) :=
  [(BitVec.extractLsb' 0 8 s.v0.l0), (BitVec.extractLsb' 8 8 s.v0.l0), (BitVec.extractLsb' 16 8 s.v0.l0), (BitVec.extractLsb' 24 8 s.v0.l0), (BitVec.extractLsb' 32 8 s.v0.l0), (BitVec.extractLsb' 40 8 s.v0.l0), (BitVec.extractLsb' 48 8 s.v0.l0), (BitVec.extractLsb' 56 8 s.v0.l0), (BitVec.extractLsb' 0 8 s.v0.l1), (BitVec.extractLsb' 8 8 s.v0.l1), (BitVec.extractLsb' 16 8 s.v0.l1), (BitVec.extractLsb' 24 8 s.v0.l1), (BitVec.extractLsb' 32 8 s.v0.l1), (BitVec.extractLsb' 40 8 s.v0.l1), (BitVec.extractLsb' 48 8 s.v0.l1), (BitVec.extractLsb' 56 8 s.v0.l1), (BitVec.extractLsb' 0 8 s.v0.l2), (BitVec.extractLsb' 8 8 s.v0.l2), (BitVec.extractLsb' 16 8 s.v0.l2), (BitVec.extractLsb' 24 8 s.v0.l2), (BitVec.extractLsb' 32 8 s.v0.l2), (BitVec.extractLsb' 40 8 s.v0.l2), (BitVec.extractLsb' 48 8 s.v0.l2), (BitVec.extractLsb' 56 8 s.v0.l2), (BitVec.extractLsb' 0 8 s.v0.l3), (BitVec.extractLsb' 8 8 s.v0.l3), (BitVec.extractLsb' 16 8 s.v0.l3), (BitVec.extractLsb' 24 8 s.v0.l3), (BitVec.extractLsb' 32 8 s.v0.l3), (BitVec.extractLsb' 40 8 s.v0.l3), (BitVec.extractLsb' 48 8 s.v0.l3), (BitVec.extractLsb' 56 8 s.v0.l3), (BitVec.extractLsb' 0 8 s.v1.l0), (BitVec.extractLsb' 8 8 s.v1.l0), (BitVec.extractLsb' 16 8 s.v1.l0), (BitVec.extractLsb' 24 8 s.v1.l0), (BitVec.extractLsb' 32 8 s.v1.l0), (BitVec.extractLsb' 40 8 s.v1.l0), (BitVec.extractLsb' 48 8 s.v1.l0), (BitVec.extractLsb' 56 8 s.v1.l0), (BitVec.extractLsb' 0 8 s.v1.l1), (BitVec.extractLsb' 8 8 s.v1.l1), (BitVec.extractLsb' 16 8 s.v1.l1), (BitVec.extractLsb' 24 8 s.v1.l1), (BitVec.extractLsb' 32 8 s.v1.l1), (BitVec.extractLsb' 40 8 s.v1.l1), (BitVec.extractLsb' 48 8 s.v1.l1), (BitVec.extractLsb' 56 8 s.v1.l1), (BitVec.extractLsb' 0 8 s.v1.l2), (BitVec.extractLsb' 8 8 s.v1.l2), (BitVec.extractLsb' 16 8 s.v1.l2), (BitVec.extractLsb' 24 8 s.v1.l2), (BitVec.extractLsb' 32 8 s.v1.l2), (BitVec.extractLsb' 40 8 s.v1.l2), (BitVec.extractLsb' 48 8 s.v1.l2), (BitVec.extractLsb' 56 8 s.v1.l2), (BitVec.extractLsb' 0 8 s.v1.l3), (BitVec.extractLsb' 8 8 s.v1.l3), (BitVec.extractLsb' 16 8 s.v1.l3), (BitVec.extractLsb' 24 8 s.v1.l3), (BitVec.extractLsb' 32 8 s.v1.l3), (BitVec.extractLsb' 40 8 s.v1.l3), (BitVec.extractLsb' 48 8 s.v1.l3), (BitVec.extractLsb' 56 8 s.v1.l3), (BitVec.extractLsb' 0 8 s.mul0.l0), (BitVec.extractLsb' 8 8 s.mul0.l0), (BitVec.extractLsb' 16 8 s.mul0.l0), (BitVec.extractLsb' 24 8 s.mul0.l0), (BitVec.extractLsb' 32 8 s.mul0.l0), (BitVec.extractLsb' 40 8 s.mul0.l0), (BitVec.extractLsb' 48 8 s.mul0.l0), (BitVec.extractLsb' 56 8 s.mul0.l0), (BitVec.extractLsb' 0 8 s.mul0.l1), (BitVec.extractLsb' 8 8 s.mul0.l1), (BitVec.extractLsb' 16 8 s.mul0.l1), (BitVec.extractLsb' 24 8 s.mul0.l1), (BitVec.extractLsb' 32 8 s.mul0.l1), (BitVec.extractLsb' 40 8 s.mul0.l1), (BitVec.extractLsb' 48 8 s.mul0.l1), (BitVec.extractLsb' 56 8 s.mul0.l1), (BitVec.extractLsb' 0 8 s.mul0.l2), (BitVec.extractLsb' 8 8 s.mul0.l2), (BitVec.extractLsb' 16 8 s.mul0.l2), (BitVec.extractLsb' 24 8 s.mul0.l2), (BitVec.extractLsb' 32 8 s.mul0.l2), (BitVec.extractLsb' 40 8 s.mul0.l2), (BitVec.extractLsb' 48 8 s.mul0.l2), (BitVec.extractLsb' 56 8 s.mul0.l2), (BitVec.extractLsb' 0 8 s.mul0.l3), (BitVec.extractLsb' 8 8 s.mul0.l3), (BitVec.extractLsb' 16 8 s.mul0.l3), (BitVec.extractLsb' 24 8 s.mul0.l3), (BitVec.extractLsb' 32 8 s.mul0.l3), (BitVec.extractLsb' 40 8 s.mul0.l3), (BitVec.extractLsb' 48 8 s.mul0.l3), (BitVec.extractLsb' 56 8 s.mul0.l3), (BitVec.extractLsb' 0 8 s.mul1.l0), (BitVec.extractLsb' 8 8 s.mul1.l0), (BitVec.extractLsb' 16 8 s.mul1.l0), (BitVec.extractLsb' 24 8 s.mul1.l0), (BitVec.extractLsb' 32 8 s.mul1.l0), (BitVec.extractLsb' 40 8 s.mul1.l0), (BitVec.extractLsb' 48 8 s.mul1.l0), (BitVec.extractLsb' 56 8 s.mul1.l0), (BitVec.extractLsb' 0 8 s.mul1.l1), (BitVec.extractLsb' 8 8 s.mul1.l1), (BitVec.extractLsb' 16 8 s.mul1.l1), (BitVec.extractLsb' 24 8 s.mul1.l1), (BitVec.extractLsb' 32 8 s.mul1.l1), (BitVec.extractLsb' 40 8 s.mul1.l1), (BitVec.extractLsb' 48 8 s.mul1.l1), (BitVec.extractLsb' 56 8 s.mul1.l1), (BitVec.extractLsb' 0 8 s.mul1.l2), (BitVec.extractLsb' 8 8 s.mul1.l2), (BitVec.extractLsb' 16 8 s.mul1.l2), (BitVec.extractLsb' 24 8 s.mul1.l2), (BitVec.extractLsb' 32 8 s.mul1.l2), (BitVec.extractLsb' 40 8 s.mul1.l2), (BitVec.extractLsb' 48 8 s.mul1.l2), (BitVec.extractLsb' 56 8 s.mul1.l2), (BitVec.extractLsb' 0 8 s.mul1.l3), (BitVec.extractLsb' 8 8 s.mul1.l3), (BitVec.extractLsb' 16 8 s.mul1.l3), (BitVec.extractLsb' 24 8 s.mul1.l3), (BitVec.extractLsb' 32 8 s.mul1.l3), (BitVec.extractLsb' 40 8 s.mul1.l3), (BitVec.extractLsb' 48 8 s.mul1.l3), (BitVec.extractLsb' 56 8 s.mul1.l3), b0, b1, b2, b3, b4, b5, b6, b7, b8, b9, b10, b11, b12, b13, b14, b15, b16, b17, b18, b19, b20, b21, b22, (0#8), (0#8), (0#8), (0#8), (0#8), (0#8), (0#8), (0#8), (0#8), (BitVec.extractLsb' 0 8 (23#32)), (BitVec.extractLsb' 8 8 (23#32)), (BitVec.extractLsb' 16 8 (23#32)), (BitVec.extractLsb' 24 8 (23#32))]
def checkpoint24 (s : St) (b0 b1 b2 b3 b4 b5 b6 b7 b8 b9 b10 b11 b12 b13 b14 b15 b16 b17 b18 b19 b20 b21 b22 b23 b24 b25 b26 b27 b28 b29 b30 b31 : BitVec 8) : List (BitVec 8) :=
  [(BitVec.extractLsb' 0 8 s.v0.l0), (BitVec.extractLsb' 8 8 s.v0.l0), (BitVec.extractLsb' 16 8 s.v0.l0), (BitVec.extractLsb' 24 8 s.v0.l0), (BitVec.extractLsb' 32 8 s.v0.l0), (BitVec.extractLsb' 40 8 s.v0.l0), (BitVec.extractLsb' 48 8 s.v0.l0), (BitVec.extractLsb' 56 8 s.v0.l0), (BitVec.extractLsb' 0 8 s.v0.l1), (BitVec.extractLsb' 8 8 s.v0.l1), (BitVec.extractLsb' 16 8 s.v0.l1), (BitVec.extractLsb' 24 8 s.v0.l1), (BitVec.extractLsb' 32 8 s.v0.l1), (BitVec.extractLsb' 40 8 s.v0.l1), (BitVec.extractLsb' 48 8 s.v0.l1), (BitVec.extractLsb' 56 8 s.v0.l1), (BitVec.extractLsb' 0 8 s.v0.l2), (BitVec.extractLsb' 8 8 s.v0.l2), (BitVec.extractLsb' 16 8 s.v0.l2), (BitVec.extractLsb' 24 8 s.v0.l2), (BitVec.extractLsb' 32 8 s.v0.l2), (BitVec.extractLsb' 40 8 s.v0.l2), (BitVec.extractLsb' 48 8 s.v0.l2), (BitVec.extractLsb' 56 8 s.v0.l2), (BitVec.extractLsb' 0 8 s.v0.l3), (BitVec.extractLsb' 8 8 s.v0.l3), (BitVec.extractLsb' 16 8 s.v0.l3), (BitVec.extractLsb' 24 8 s.v0.l3), (BitVec.extractLsb' 32 8 s.v0.l3), (BitVec.extractLsb' 40 8 s.v0.l3), (BitVec.extractLsb' 48 8 s.v0.l3), (BitVec.extractLsb' 56 8 s.v0.l3), (BitVec.extractLsb' 0 8 s.v1.l0), (BitVec.extractLsb' 8 8 s.v1.l0), (BitVec.extractLsb' 16 8 s.v1.l0), (BitVec.extractLsb' 24 8 s.v1.l0), (BitVec.extractLsb' 32 8 s.v1.l0), (BitVec.extractLsb' 40 8 s.v1.l0), (BitVec.extractLsb' 48 8 s.v1.l0), (BitVec.extractLsb' 56 8 s.v1.l0), (BitVec.extractLsb' 0 8 s.v1.l1), (BitVec.extractLsb' 8 8 s.v1.l1), (BitVec.extractLsb' 16 8 s.v1.l1), (BitVec.extractLsb' 24 8 s.v1.l1), (BitVec.extractLsb' 32 8 s.v1.l1), (BitVec.extractLsb' 40 8 s.v1.l1), (BitVec.extractLsb' 48 8 s.v1.l1), (BitVec.extractLsb' 56 8 s.v1.l1), (BitVec.extractLsb' 0 8 s.v1.l2), (BitVec.extractLsb' 8 8 s.v1.l2), (BitVec.extractLsb' 16 8 s.v1.l2), (BitVec.extractLsb' 24 8 s.v1.l2), (BitVec.extractLsb' 32 8 s.v1.l2), (BitVec.extractLsb' 40 8 s.v1.l2), (BitVec.extractLsb' 48 8 s.v1.l2), (BitVec.extractLsb' 56 8 s.v1.l2), (BitVec.extractLsb' 0 8 s.v1.l3), (BitVec.extractLsb' 8 8 s.v1.l3), (BitVec.extractLsb' 16 8 s.v1.l3), (BitVec.extractLsb' 24 8 s.v1.l3), (BitVec.extractLsb' 32 8 s.v1.l3), (BitVec.extractLsb' 40 8 s.v1.l3), (BitVec.extractLsb' 48 8 s.v1.l3), (BitVec.extractLsb' 56 8 s.v1.l3), (BitVec.extractLsb' 0 8 s.mul0.l0), (BitVec.extractLsb' 8 8 s.mul0.l0), (BitVec.extractLsb' 16 8 s.mul0.l0), (BitVec.extractLsb' 24 8 s.mul0.l0), (BitVec.extractLsb' 32 8 s.mul0.l0), (BitVec.extractLsb' 40 8 s.mul0.l0), (BitVec.extractLsb' 48 8 s.mul0.l0), (BitVec.extractLsb' 56 8 s.mul0.l0), (BitVec.extractLsb' 0 8 s.mul0.l1), (BitVec.extractLsb' 8 8 s.mul0.l1), (BitVec.extractLsb' 16 8 s.mul0.l1), (BitVec.extractLsb' 24 8 s.mul0.l1), (BitVec.extractLsb' 32 8 s.mul0.l1), (BitVec.extractLsb' 40 8 s.mul0.l1), (BitVec.extractLsb' 48 8 s.mul0.l1), (BitVec.extractLsb' 56 8 s.mul0.l1), (BitVec.extractLsb' 0 8 s.mul0.l2), (BitVec.extractLsb' 8 8 s.mul0.l2), (BitVec.extractLsb' 16 8 s.mul0.l2), (BitVec.extractLsb' 24 8 s.mul0.l2), (BitVec.extractLsb' 32 8 s.mul0.l2), (BitVec.extractLsb' 40 8 s.mul0.l2), (BitVec.extractLsb' 48 8 s.mul0.l2), (BitVec.extractLsb' 56 8 s.mul0.l2), (BitVec.extractLsb' 0 8 s.mul0.l3), (BitVec.extractLsb' 8 8 s.mul0.l3), (BitVec.extractLsb' 16 8 s.mul0.l3), (BitVec.extractLsb' 24 8 s.mul0.l3), (BitVec.extractLsb' 32 8 s.mul0.l3), (BitVec.extractLsb' 40 8 s.mul0.l3), (BitVec.extractLsb' 48 8 s.mul0.l3), (BitVec.extractLsb' 56 8 s.mul0.l3), (BitVec.extractLsb' 0 8 s.mul1.l0), (BitVec.extractLsb' 8 8 s.mul1.l0), (BitVec.extractLsb' 16 8 s.mul1.l0), (BitVec.extractLsb' 24 8 s.mul1.l0), (BitVec.extractLsb' 32 8 s.mul1.l0), (BitVec.extractLsb' 40 8 s.mul1.l0), (BitVec.extractLsb' 48 8 s.mul1.l0), (BitVec.extractLsb' 56 8 s.mul1.l0), (BitVec.extractLsb' 0 8 s.mul1.l1), (BitVec.extractLsb' 8 8 s.mul1.l1), (BitVec.extractLsb' 16 8 s.mul1.l1), (BitVec.extractLsb' 24 8 s.mul1.l1), (BitVec.extractLsb' 32 8 s.mul1.l1), (BitVec.extractLsb' 40 8 s.mul1.l1), (BitVec.extractLsb' 48 8 s.mul1.l1), (BitVec.extractLsb' 56 8 s.mul1.l1), (BitVec.extractLsb' 0 8 s.mul1.l2), (BitVec.extractLsb' 8 8 s.mul1.l2), (BitVec.extractLsb' 16 8 s.mul1.l2), (BitVec.extractLsb' 24 8 s.mul1.l2), (BitVec.extractLsb' 32 8 s.mul1.l2), (BitVec.extractLsb' 40 8 s.mul1.l2), (BitVec.extractLsb' 48 8 s.mul1.l2), (BitVec.extractLsb' 56 8 s.mul1.l2), (BitVec.extractLsb' 0 8 s.mul1.l3), (BitVec.extractLsb' 8 8 s.mul1.l3), (BitVec.extractLsb' 16 8 s.mul1.l3), (BitVec.extractLsb' 24 8 s.mul1.l3), (BitVec.extractLsb' 32 8 s.mul1.l3), (BitVec.extractLsb' 40 8 s.mul1.l3), (BitVec.extractLsb' 48 8 s.mul1.l3), (BitVec.extractLsb' 56 8 s.mul1.l3), b0, b1, b2, b3, b4, b5, b6, b7, b8, b9, b10, b11, b12, b13, b14, b15, b16, b17, b18, b19, b20, b21, b22, b23, (0#8), (0#8), (0#8), (0#8), (0#8), (0#8), (0#8), (0#8), (BitVec.extractLsb' 0 8 (24#32)), (BitVec.extractLsb' 8 8 (24#32)), (BitVec.extractLsb' 16 8 (24#32)), (BitVec.extractLsb' 24 8 (24#32))]
def checkpoint25 (s : St) (b0 b1 b2 b3 b4 b5 b6 b7 b8 b9 b10 b11 b12 b13 b14 b15 b16 b17 b18 b19 b20 b21 b22 b23 b24 b25 b26 b27 b28 b29 b30 b31 : BitVec 8) : List (BitVec 8) :=
  [(BitVec.extractLsb' 0 8 s.v0.l0), (BitVec.extractLsb' 8 8 s.v0.l0), (BitVec.extractLsb' 16 8 s.v0.l0), (BitVec.extractLsb' 24 8 s.v0.l0), (BitVec.extractLsb' 32 8 s.v0.l0), (BitVec.extractLsb' 40 8 s.v0.l0), (BitVec.extractLsb' 48 8 s.v0.l0), (BitVec.extractLsb' 56 8 s.v0.l0), (BitVec.extractLsb' 0 8 s.v0.l1), (BitVec.extractLsb' 8 8 s.v0.l1), (BitVec.extractLsb' 16 8 s.v0.l1), (BitVec.extractLsb' 24 8 s.v0.l1), (BitVec.extractLsb' 32 8 s.v0.l1), (BitVec.extractLsb' 40 8 s.v0.l1), (BitVec.extractLsb' 48 8 s.v0.l1), (BitVec.extractLsb' 56 8 s.v0.l1), (BitVec.extractLsb' 0 8 s.v0.l2), (BitVec.extractLsb' 8 8 s.v0.l2), (BitVec.extractLsb' 16 8 s.v0.l2), (BitVec.extractLsb' 24 8 s.v0.l2), (BitVec.extractLsb' 32 8 s.v0.l2), (BitVec.extractLsb' 40 8 s.v0.l2), (BitVec.extractLsb' 48 8 s.v0.l2), (BitVec.extractLsb' 56 8 s.v0.l2), (BitVec.extractLsb' 0 8 s.v0.l3), (BitVec.extractLsb' 8 8 s.v0.l3), (BitVec.extractLsb' 16 8 s.v0.l3), (BitVec.extractLsb' 24 8 s.v0.l3), (BitVec.extractLsb' 32 8 s.v0.l3), (BitVec.extractLsb' 40 8 s.v0.l3), (BitVec.extractLsb' 48 8 s.v0.l3), (BitVec.extractLsb' 56 8 s.v0.l3), (BitVec.extractLsb' 0 8 s.v1.l0), (BitVec.extractLsb' 8 8 s.v1.l0), (BitVec.extractLsb' 16 8 s.v1.l0), (BitVec.extractLsb' 24 8 s.v1.l0), (BitVec.extractLsb' 32 8 s.v1.l0), (BitVec.extractLsb' 40 8 s.v1.l0), (BitVec.extractLsb' 48 8 s.v1.l0), (BitVec.extractLsb' 56 8 s.v1.l0), (BitVec.extractLsb' 0 8 s.v1.l1), (BitVec.extractLsb' 8 8 s.v1.l1), (BitVec.extractLsb' 16 8 s.v1.l1), (BitVec.extractLsb' 24 8 s.v1.l1), (BitVec.extractLsb' 32 8 s.v1.l1), (BitVec.extractLsb' 40 8 s.v1.l1), (BitVec.extractLsb' 48 8 s.v1.l1), (BitVec.extractLsb' 56 8 s.v1.l1), (BitVec.extractLsb' 0 8 s.v1.l2), (BitVec.extractLsb' 8 8 s.v1.l2), (BitVec.extractLsb' 16 8 s.v1.l2), (BitVec.extractLsb' 24 8 s.v1.l2), (BitVec.extractLsb' 32 8 s.v1.l2), (BitVec.extractLsb' 40 8 s.v1.l2), (BitVec.extractLsb' 48 8 s.v1.l2), (BitVec.extractLsb' 56 8 s.v1.l2), (BitVec.extractLsb' 0 8 s.v1.l3), (BitVec.extractLsb' 8 8 s.v1.l3), (BitVec.extractLsb' 16 8 s.v1.l3), (BitVec.extractLsb' 24 8 s.v1.l3), (BitVec.extractLsb' 32 8 s.v1.l3), (BitVec.extractLsb' 40 8 s.v1.l3), (BitVec.extractLsb' 48 8 s.v1.l3), (BitVec.extractLsb' 56 8 s.v1.l3), (BitVec.extractLsb' 0 8 s.mul0.l0), (BitVec.extractLsb' 8 8 s.mul0.l0), (BitVec.extractLsb' 16 8 s.mul0.l0), (BitVec.extractLsb' 24 8 s.mul0.l0), (BitVec.extractLsb' 32 8 s.mul0.l0), (BitVec.extractLsb' 40 8 s.mul0.l0), (BitVec.extractLsb' 48 8 s.mul0.l0), (BitVec.extractLsb' 56 8 s.mul0.l0), (BitVec.extractLsb' 0 8 s.mul0.l1), (BitVec.extractLsb' 8 8 s.mul0.l1), (BitVec.extractLsb' 16 8 s.mul0.l1), (BitVec.extractLsb' 24 8 s.mul0.l1), (BitVec.extractLsb' 32 8 s.mul0.l1), (BitVec.extractLsb' 40 8 s.mul0.l1), (BitVec.extractLsb' 48 8 s.mul0.l1), (BitVec.extractLsb' 56 8 s.mul0.l1), (BitVec.extractLsb' 0 8 s.mul0.l2), (BitVec.extractLsb' 8 8 s.mul0.l2), (BitVec.extractLsb' 16 8 s.mul0.l2), (BitVec.extractLsb' 24 8 s.mul0.l2), (BitVec.extractLsb' 32 8 s.mul0.l2), (BitVec.extractLsb' 40 8 s.mul0.l2), (BitVec.extractLsb' 48 8 s.mul0.l2), (BitVec.extractLsb' 56 8 s.mul0.l2), (BitVec.extractLsb' 0 8 s.mul0.l3), (BitVec.extractLsb' 8 8 s.mul0.l3), (BitVec.extractLsb' 16 8 s.mul0.l3), (BitVec.extractLsb' 24 8 s.mul0.l3), (BitVec.extractLsb' 32 8 s.mul0.l3), (BitVec.extractLsb' 40 8 s.mul0.l3), (BitVec.extractLsb' 48 8 s.mul0.l3), (BitVec.extractLsb' 56 8 s.mul0.l3), (BitVec.extractLsb' 0 8 s.mul1.l0), (BitVec.extractLsb' 8 8 s.mul1.l0), (BitVec.extractLsb' 16 8 s.mul1.l0), (BitVec.extractLsb' 24 8 s.mul1.l0), (BitVec.extractLsb' 32 8 s.mul1.l0), (BitVec.extractLsb' 40 8 s.mul1.l0), (BitVec.extractLsb' 48 8 s.mul1.l0), (BitVec.extractLsb' 56 8 s.mul1.l0), (BitVec.extractLsb' 0 8 s.mul1.l1), (BitVec.extractLsb' 8 8 s.mul1.l1), (BitVec.extractLsb' 16 8 s.mul1.l1), (BitVec.extractLsb' 24 8 s.mul1.l1), (BitVec.extractLsb' 32 8 s.mul1.l1), (BitVec.extractLsb' 40 8 s.mul1.l1), (BitVec.extractLsb' 48 8 s.mul1.l1), (BitVec.extractLsb' 56 8 s.mul1.l1), (BitVec.extractLsb' 0 8 s.mul1.l2), (BitVec.extractLsb' 8 8 s.mul1.l2), (BitVec.extractLsb' 16 8 s.mul1.l2), (BitVec.extractLsb' 24 8 s.mul1.l2), (BitVec.extractLsb' 32 8 s.mul1.l2), (BitVec.extractLsb' 40 8 s.mul1.l2), (BitVec.extractLsb' 48 8 s.mul1.l2), (BitVec.extractLsb' 56 8 s.mul1.l2), (BitVec.extractLsb' 0 8 s.mul1.l3), (BitVec.extractLsb' 8 8 s.mul1.l3), (BitVec.extractLsb' 16 8 s.mul1.l3), (BitVec.extractLsb' 24 8 s.mul1.l3), (BitVec.extractLsb' 32 8 s.mul1.l3), (BitVec.extractLsb' 40 8 s.mul1.l3), (BitVec.extractLsb' 48 8 s.mul1.l3), (BitVec.extractLsb' 56 8 s.mul1.l3), b0, b1, b2, b3, b4, b5, b6, b7, b8, b9, b10, b11, b12, b13, b14, b15, b16, b17, b18, b19, b20, b21, b22, b23, b24, (0#8), (0#8), (0#8), (0#8), (0#8), (0#8), (0#8), (BitVec.extractLsb' 0 8 (25#32)), (BitVec.extractLsb' 8 8 (25#32)), (BitVec.extractLsb' 16 8 (25#32)), (BitVec.extractLsb' 24 8 (25#32))]
def checkpoint26 (s : St) (b0 b1 b2 b3 b4 b5 b6 b7 b8 b9 b10 b11 b12 b13 b14 b15 b16 b17 b18 b19 b20 b21 b22 b23 b24 b25 b26 b27 b28 b29 b30 b31 : BitVec 8) : List (BitVec 8) :=
  [(BitVec.extractLsb' 0 8 s.v0.l0), (BitVec.extractLsb' 8 8 s.v0.l0), (BitVec.extractLsb' 16 8 s.v0.l0), (BitVec.extractLsb' 24 8 s.v0.l0), (BitVec.extractLsb' 32 8 s.v0.l0), (BitVec.extractLsb' 40 8 s.v0.l0), (BitVec.extractLsb' 48 8 s.v0.l0), (BitVec.extractLsb' 56 8 s.v0.l0), (BitVec.extractLsb' 0 8 s.v0.l1), (BitVec.extractLsb' 8 8 s.v0.l1), (BitVec.extractLsb' 16 8 s.v0.l1), (BitVec.extractLsb' 24 8 s.v0.l1), (BitVec.extractLsb' 32 8 s.v0.l1), (BitVec.extractLsb' 40 8 s.v0.l1), (BitVec.extractLsb' 48 8 s.v0.l1), (BitVec.extractLsb' 56 8 s.v0.l1), (BitVec.extractLsb' 0 8 s.v0.l2), (BitVec.extractLsb' 8 8 s.v0.l2), (BitVec.extractLsb' 16 8 s.v0.l2), (BitVec.extractLsb' 24 8 s.v0.l2), (BitVec.extractLsb' 32 8 s.v0.l2), (BitVec.extractLsb' 40 8 s.v0.l2), (BitVec.extractLsb' 48 8 s.v0.l2), (BitVec.extractLsb' 56 8 s.v0.l2), (BitVec.extractLsb' 0 8 s.v0.l3), (BitVec.extractLsb' 8 8 s.v0.l3), (BitVec.extractLsb' 16 8 s.v0.l3), (BitVec.extractLsb' 24 8 s.v0.l3), (BitVec.extractLsb' 32 8 s.v0.l3), (BitVec.extractLsb' 40 8 s.v0.l3), (BitVec.extractLsb' 48 8 s.v0.l3), (BitVec.extractLsb' 56 8 s.v0.l3), (BitVec.extractLsb' 0 8 s.v1.l0), (BitVec.extractLsb' 8 8 s.v1.l0), (BitVec.extractLsb' 16 8 s.v1.l0), (BitVec.extractLsb' 24 8 s.v1.l0), (BitVec.extractLsb' 32 8 s.v1.l0), (BitVec.extractLsb' 40 8 s.v1.l0), (BitVec.extractLsb' 48 8 s.v1.l0), (BitVec.extractLsb' 56 8 s.v1.l0), (BitVec.extractLsb' 0 8 s.v1.l1), (BitVec.extractLsb' 8 8 s.v1.l1), (BitVec.extractLsb' 16 8 s.v1.l1), (BitVec.extractLsb' 24 8 s.v1.l1), (BitVec.extractLsb' 32 8 s.v1.l1), (BitVec.extractLsb' 40 8 s.v1.l1), (BitVec.extractLsb' 48 8 s.v1.l1), (BitVec.extractLsb' 56 8 s.v1.l1), (BitVec.extractLsb' 0 8 s.v1.l2), (BitVec.extractLsb' 8 8 s.v1.l2), (BitVec.extractLsb' 16 8 s.v1.l2), (BitVec.extractLsb' 24 8 s.v1.l2), (BitVec.extractLsb' 32 8 s.v1.l2), (BitVec.extractLsb' 40 8 s.v1.l2), (BitVec.extractLsb' 48 8 s.v1.l2), (BitVec.extractLsb' 56 8 s.v1.l2), (BitVec.extractLsb' 0 8 s.v1.l3), (BitVec.extractLsb' 8 8 s.v1.l3), (BitVec.extractLsb' 16 8 s.v1.l3), (BitVec.extractLsb' 24 8 s.v1.l3), (BitVec.extractLsb' 32 8 s.v1.l3), (BitVec.extractLsb' 40 8 s.v1.l3), (BitVec.extractLsb' 48 8 s.v1.l3), (BitVec.extractLsb' 56 8 s.v1.l3), (BitVec.extractLsb' 0 8 s.mul0.l0), (BitVec.extractLsb' 8 8 s.mul0.l0), (BitVec.extractLsb' 16 8 s.mul0.l0), (BitVec.extractLsb' 24 8 s.mul0.l0), (BitVec.extractLsb' 32 8 s.mul0.l0), (BitVec.extractLsb' 40 8 s.mul0.l0), (BitVec.extractLsb' 48 8 s.mul0.l0), (BitVec.extractLsb' 56 8 s.mul0.l0), (BitVec.extractLsb' 0 8 s.mul0.l1), (BitVec.extractLsb' 8 8 s.mul0.l1), (BitVec.extractLsb' 16 8 s.mul0.l1), (BitVec.extractLsb' 24 8 s.mul0.l1), (BitVec.extractLsb' 32 8 s.mul0.l1), (BitVec.extractLsb' 40 8 s.mul0.l1), (BitVec.extractLsb' 48 8 s.mul0.l1), (BitVec.extractLsb' 56 8 s.mul0.l1), (BitVec.extractLsb' 0 8 s.mul0.l2), (BitVec.extractLsb' 8 8 s.mul0.l2), (BitVec.extractLsb' 16 8 s.mul0.l2), (BitVec.extractLsb' 24 8 s.mul0.l2), (BitVec.extractLsb' 32 8 s.mul0.l2), (BitVec.extractLsb' 40 8 s.mul0.l2), (BitVec.extractLsb' 48 8 s.mul0.l2), (BitVec.extractLsb' 56 8 s.mul0.l2), (BitVec.extractLsb' 0 8 s.mul0.l3), (BitVec.extractLsb' 8 8 s.mul0.l3), (BitVec.extractLsb' 16 8 s.mul0.l3), (BitVec.extractLsb' 24 8 s.mul0.l3), (BitVec.extractLsb' 32 8 s.mul0.l3), (BitVec.extractLsb' 40 8 s.mul0.l3), (BitVec.extractLsb' 48 8 s.mul0.l3), (BitVec.extractLsb' 56 8 s.mul0.l3), (BitVec.extractLsb' 0 8 s.mul1.l0), (BitVec.extractLsb' 8 8 s.mul1.l0), (BitVec.extractLsb' 16 8 s.mul1.l0), (BitVec.extractLsb' 24 8 s.mul1.l0), (BitVec.extractLsb' 32 8 s.mul1.l0), (BitVec.extractLsb' 40 8 s.mul1.l0), (BitVec.extractLsb' 48 8 s.mul1.l0), (BitVec.extractLsb' 56 8 s.mul1.l0), (BitVec.extractLsb' 0 8 s.mul1.l1), (BitVec.extractLsb' 8 8 s.mul1.l1), (BitVec.extractLsb' 16 8 s.mul1.l1), (BitVec.extractLsb' 24 8 s.mul1.l1), (BitVec.extractLsb' 32 8 s.mul1.l1), (BitVec.extractLsb' 40 8 s.mul1.l1), (BitVec.extractLsb' 48 8 s.mul1.l1), (BitVec.extractLsb' 56 8 s.mul1.l1), (BitVec.extractLsb' 0 8 s.mul1.l2), (BitVec.extractLsb' 8 8 s.mul1.l2), (BitVec.extractLsb' 16 8 s.mul1.l2), (BitVec.extractLsb' 24 8 s.mul1.l2), (BitVec.extractLsb' 32 8 s.mul1.l2), (BitVec.extractLsb' 40 8 s.mul1.l2), (BitVec.extractLsb' 48 8 s.mul1.l2), (BitVec.extractLsb' 56 8 s.mul1.l2), (BitVec.extractLsb' 0 8 s.mul1.l3), (BitVec.extractLsb' 8 8 s.mul1.l3), (BitVec.extractLsb' 16 8 s.mul1.l3), (BitVec.extractLsb' 24 8 s.mul1.l3), (BitVec.extractLsb' 32 8 s.mul1.l3), (BitVec.extractLsb' 40 8 s.mul1.l3), (BitVec.extractLsb' 48 8 s.mul1.l3), (BitVec.extractLsb' 56 8 s.mul1.l3), b0, b1, b2, b3, b4, b5, b6, b7, b8, b9, b10, b11, b12, b13, b14, b15, b16, b17, b18, b19, b20, b21, b22, b23, b24, b25, (0#8), (0#8), (0#8), (0#8), (0#8), (0#8), (BitVec.extractLsb' 0 8 (26#32)), (BitVec.extractLsb' 8 8 (26#32)), (BitVec.extractLsb' 16 8 (26#32)), (BitVec.extractLsb' 24 8 (26#32))]
def checkpoint27 (s : St) (b0 b1 b2 b3 b4 b5 b6 b7 b8 b9 b10 b11 b12 b13 b14 b15 b16 b17 b18 b19 b20 b21 b22 b23 b24 b25 b26 b27 b28 b29 b30 b31 : BitVec 8) : List (BitVec 8) :=
  [(BitVec.extractLsb' 0 8 s.v0.l0), (BitVec.extractLsb' 8 8 s.v0.l0), (BitVec.extractLsb' 16 8 s.v0.l0), (BitVec.extractLsb' 24 8 s.v0.l0), (BitVec.extractLsb' 32 8 s.v0.l0), (BitVec.extractLsb' 40 8 s.v0.l0), (BitVec.extractLsb' 48 8 s.v0.l0), (BitVec.extractLsb' 56 8 s.v0.l0), (BitVec.extractLsb' 0 8 s.v0.l1), (BitVec.extractLsb' 8 8 s.v0.l1), (BitVec.extractLsb' 16 8 s.v0.l1), (BitVec.extractLsb' 24 8 s.v0.l1), (BitVec.extractLsb' 32 8 s.v0.l1), (BitVec.extractLsb' 40 8 s.v0.l1), (BitVec.extractLsb' 48 8 s.v0.l1), (BitVec.extractLsb' 56 8 s.v0.l1), (BitVec.extractLsb' 0 8 s.v0.l2), (BitVec.extractLsb' 8 8 s.v0.l2), (BitVec.extractLsb' 16 8 s.v0.l2), (BitVec.extractLsb' 24 8 s.v0.l2), (BitVec.extractLsb' 32 8 s.v0.l2), (BitVec.extractLsb' 40 8 s.v0.l2), (BitVec.extractLsb' 48 8 s.v0.l2), (BitVec.extractLsb' 56 8 s.v0.l2), (BitVec.extractLsb' 0 8 s.v0.l3), (BitVec.extractLsb' 8 8 s.v0.l3), (BitVec.extractLsb' 16 8 s.v0.l3), (BitVec.extractLsb' 24 8 s.v0.l3), (BitVec.extractLsb' 32 8 s.v0.l3), (BitVec.extractLsb' 40 8 s.v0.l3), (BitVec.extractLsb' 48 8 s.v0.l3), (BitVec.extractLsb' 56 8 s.v0.l3), (BitVec.extractLsb' 0 8 s.v1.l0), (BitVec.extractLsb' 8 8 s.v1.l0), (BitVec.extractLsb' 16 8 s.v1.l0), (BitVec.extractLsb' 24 8 s.v1.l0), (BitVec.extractLsb' 32 8 s.v1.l0), (BitVec.extractLsb' 40 8 s.v1.l0), (BitVec.extractLsb' 48 8 s.v1.l0), (BitVec.extractLsb' 56 8 s.v1.l0), (BitVec.extractLsb' 0 8 s.v1.l1), (BitVec.extractLsb' 8 8 s.v1.l1), (BitVec.extractLsb' 16 8 s.v1.l1), (BitVec.extractLsb' 24 8 s.v1.l1), (BitVec.extractLsb' 32 8 s.v1.l1), (BitVec.extractLsb' 40 8 s.v1.l1), (BitVec.extractLsb' 48 8 s.v1.l1), (BitVec.extractLsb' 56 8 s.v1.l1), (BitVec.extractLsb' 0 8 s.v1.l2), (BitVec.extractLsb' 8 8 s.v1.l2), (BitVec.extractLsb' 16 8 s.v1.l2), (BitVec.extractLsb' 24 8 s.v1.l2), (BitVec.extractLsb' 32 8 s.v1.l2), (BitVec.extractLsb' 40 8 s.v1.l2), (BitVec.extractLsb' 48 8 s.v1.l2), (BitVec.extractLsb' 56 8 s.v1.l2), (BitVec.extractLsb' 0 8 s.v1.l3), (BitVec.extractLsb' 8 8 s.v1.l3), (BitVec.extractLsb' 16 8 s.v1.l3), (BitVec.extractLsb' 24 8 s.v1.l3), (BitVec.extractLsb' 32 8 s.v1.l3), (BitVec.extractLsb' 40 8 s.v1.l3), (BitVec.extractLsb' 48 8 s.v1.l3), (BitVec.extractLsb' 56 8 s.v1.l3), (BitVec.extractLsb' 0 8 s.mul0.l0), (BitVec.extractLsb' 8 8 s.mul0.l0), (BitVec.extractLsb' 16 8 s.mul0.l0), (BitVec.extractLsb' 24 8 s.mul0.l0), (BitVec.extractLsb' 32 8 s.mul0.l0), (BitVec.extractLsb' 40 8 s.mul0.l0), (BitVec.extractLsb' 48 8 s.mul0.l0), (BitVec.extractLsb' 56 8 s.mul0.l0), (BitVec.extractLsb' 0 8 s.mul0.l1), (BitVec.extractLsb' 8 8 s.mul0.l1), (BitVec.extractLsb' 16 8 s.mul0.l1), (BitVec.extractLsb' 24 8 s.mul0.l1), (BitVec.extractLsb' 32 8 s.mul0.l1), (BitVec.extractLsb' 40 8 s.mul0.l1), (BitVec.extractLsb' 48 8 s.mul0.l1), (BitVec.extractLsb' 56 8 s.mul0.l1), (BitVec.extractLsb' 0 8 s.mul0.l2), (BitVec.extractLsb' 8 8 s.mul0.l2), (BitVec.extractLsb' 16 8 s.mul0.l2), (BitVec.extractLsb' 24 8 s.mul0.l2), (BitVec.extractLsb' 32 8 s.mul0.l2), (BitVec.extractLsb' 40 8 s.mul0.l2), (BitVec.extractLsb' 48 8 s.mul0.l2), (BitVec.extractLsb' 56 8 s.mul0.l2), (BitVec.extractLsb' 0 8 s.mul0.l3), (BitVec.extractLsb' 8 8 s.mul0.l3), (BitVec.extractLsb' 16 8 s.mul0.l3), (BitVec.extractLsb' 24 8 s.mul0.l3), (BitVec.extractLsb' 32 8 s.mul0.l3), (BitVec.extractLsb' 40 8 s.mul0.l3), (BitVec.extractLsb' 48 8 s.mul0.l3), (BitVec.extractLsb' 56 8 s.mul0.l3), (BitVec.extractLsb' 0 8 s.mul1.l0), (BitVec.extractLsb' 8 8 s.mul1.l0), (BitVec.extractLsb' 16 8 s.mul1.l0), (BitVec.extractLsb' 24 8 s.mul1.l0), (BitVec.extractLsb' 32 8 s.mul1.l0), (BitVec.extractLsb' 40 8 s.mul1.l0), (BitVec.extractLsb' 48 8 s.mul1.l0), (BitVec.extractLsb' 56 8 s.mul1.l0), (BitVec.extractLsb' 0 8 s.mul1.l1), (BitVec.extractLsb' 8 8 s.mul1.l1), (BitVec.extractLsb' 16 8 s.mul1.l1), (BitVec.extractLsb' 24 8 s.mul1.l1), (BitVec.extractLsb' 32 8 s.mul1.l1), (BitVec.extractLsb' 40 8 s.mul1.l1), (BitVec.extractLsb' 48 8 s.mul1.l1), (BitVec.extractLsb' 56 8 s.mul1.l1), (BitVec.extractLsb' 0 8 s.mul1.l2), (BitVec.extractLsb' 8 8 s.mul1.l2), (BitVec.extractLsb' 16 8 s.mul1.l2), (BitVec.extractLsb' 24 8 s.mul1.l2), (BitVec.extractLsb' 32 8 s.mul1.l2), (BitVec.extractLsb' 40 8 s.mul1.l2), (BitVec.extractLsb' 48 8 s.mul1.l2), (BitVec.extractLsb' 56 8 s.mul1.l2), (BitVec.extractLsb' 0 8 s.mul1.l3), (BitVec.extractLsb' 8 8 s.mul1.l3), (BitVec.extractLsb' 16 8 s.mul1.l3), (BitVec.extractLsb' 24 8 s.mul1.l3), (BitVec.extractLsb' 32 8 s.mul1.l3), (BitVec.extractLsb' 40 8 s.mul1.l3), (BitVec.extractLsb' 48 8 s.mul1.l3), (BitVec.extractLsb' 56 8 s.mul1.l3), b0, b1, b2, b3, b4, b5, b6, b7, b8, b9, b10, b11, b12, b13, b14, b15, b16, b17, b18, b19, b20, b21, b22, b23, b24, b25, b26, (0#8), (0#8), (0#8), (0#8), (0#8), (BitVec.extractLsb' 0 8 (27#32)), (BitVec.extractLsb' 8 8 (27#32)), (BitVec.extractLsb' 16 8 (27#32)), (BitVec.extractLsb' 24 8 (27#32))]
def checkpoint28 (s : St) (b0 b1 b2 b3 b4 b5 b6 b7 b8 b9 b10 b11 b12 b13 b14 b15 b16 b17 b18 b19 b20 b21 b22 b23 b24 b25 b26 b27 b28 b29 b30 b31 : BitVec 8) : List (BitVec 8) :=
  [(BitVec.extractLsb' 0 8 s.v0.l0), (BitVec.extractLsb' 8 8 s.v0.l0), (BitVec.extractLsb' 16 8 s.v0.l0), (BitVec.extractLsb' 24 8 s.v0.l0), (BitVec.extractLsb' 32 8 s.v0.l0), (BitVec.extractLsb' 40 8 s.v0.l0), (BitVec.extractLsb' 48 8 s.v0.l0), (BitVec.extractLsb' 56 8 s.v0.l0), (BitVec.extractLsb' 0 8 s.v0.l1), (BitVec.extractLsb' 8 8 s.v0.l1), (BitVec.extractLsb' 16 8 s.v0.l1), (BitVec.extractLsb' 24 8 s.v0.l1), (BitVec.extractLsb' 32 8 s.v0.l1), (BitVec.extractLsb' 40 8 s.v0.l1), (BitVec.extractLsb' 48 8 s.v0.l1), (BitVec.extractLsb' 56 8 s.v0.l1), (BitVec.extractLsb' 0 8 s.v0.l2), (BitVec.extractLsb' 8 8 s.v0.l2), (BitVec.extractLsb' 16 8 s.v0.l2), (BitVec.extractLsb' 24 8 s.v0.l2), (BitVec.extractLsb' 32 8 s.v0.l2), (BitVec.extractLsb' 40 8 s.v0.l2), (BitVec.extractLsb' 48 8 s.v0.l2), (BitVec.extractLsb' 56 8 s.v0.l2), (BitVec.extractLsb' 0 8 s.v0.l3), (BitVec.extractLsb' 8 8 s.v0.l3), (BitVec.extractLsb' 16 8 s.v0.l3), (BitVec.extractLsb' 24 8 s.v0.l3), (BitVec.extractLsb' 32 8 s.v0.l3), (BitVec.extractLsb' 40 8 s.v0.l3), (BitVec.extractLsb' 48 8 s.v0.l3), (BitVec.extractLsb' 56 8 s.v0.l3), (BitVec.extractLsb' 0 8 s.v1.l0), (BitVec.extractLsb' 8 8 s.v1.l0), (BitVec.extractLsb' 16 8 s.v1.l0), (BitVec.extractLsb' 24 8 s.v1.l0), (BitVec.extractLsb' 32 8 s.v1.l0), (BitVec.extractLsb' 40 8 s.v1.l0), (BitVec.extractLsb' 48 8 s.v1.l0), (BitVec.extractLsb' 56 8 s.v1.l0), (BitVec.extractLsb' 0 8 s.v1.l1), (BitVec.extractLsb' 8 8 s.v1.l1), (BitVec.extractLsb' 16 8 s.v1.l1), (BitVec.extractLsb' 24 8 s.v1.l1), (BitVec.extractLsb' 32 8 s.v1.l1), (BitVec.extractLsb' 40 8 s.v1.l1), (BitVec.extractLsb' 48 8 s.v1.l1), (BitVec.extractLsb' 56 8 s.v1.l1), (BitVec.extractLsb' 0 8 s.v1.l2), (BitVec.extractLsb' 8 8 s.v1.l2), (BitVec.extractLsb' 16 8 s.v1.l2), (BitVec.extractLsb' 24 8 s.v1.l2), (BitVec.extractLsb' 32 8 s.v1.l2), (BitVec.extractLsb' 40 8 s.v1.l2), (BitVec.extractLsb' 48 8 s.v1.l2), (BitVec.extractLsb' 56 8 s.v1.l2), (BitVec.extractLsb' 0 8 s.v1.l3), (BitVec.extractLsb' 8 8 s.v1.l3), (BitVec.extractLsb' 16 8 s.v1.l3), (BitVec.extractLsb' 24 8 s.v1.l3), (BitVec.extractLsb' 32 8 s.v1.l3), (BitVec.extractLsb' 40 8 s.v1.l3), (BitVec.extractLsb' 48 8 s.v1.l3), (BitVec.extractLsb' 56 8 s.v1.l3), (BitVec.extractLsb' 0 8 s.mul0.l0), (BitVec.extractLsb' 8 8 s.mul0.l0), (BitVec.extractLsb' 16 8 s.mul0.l0), (BitVec.extractLsb' 24 8 s.mul0.l0), (BitVec.extractLsb' 32 8 s.mul0.l0), (BitVec.extractLsb' 40 8 s.mul0.l0), (BitVec.extractLsb' 48 8 s.mul0.l0), (BitVec.extractLsb' 56 8 s.mul0.l0), (BitVec.extractLsb' 0 8 s.mul0.l1), (BitVec.extractLsb' 8 8 s.mul0.l1), (BitVec.extractLsb' 16 8 s.mul0.l1), (BitVec.extractLsb' 24 8 s.mul0.l1), (BitVec.extractLsb' 32 8 s.mul0.l1), (BitVec.extractLsb' 40 8 s.mul0.l1), (BitVec.extractLsb' 48 8 s.mul0.l1), (BitVec.extractLsb' 56 8 s.mul0.l1), (BitVec.extractLsb' 0 8 s.mul0.l2), (BitVec.extractLsb' 8 8 s.mul0.l2), (BitVec.extractLsb' 16 8 s.mul0.l2), (BitVec.extractLsb' 24 8 s.mul0.l2), (BitVec.extractLsb' 32 8 s.mul0.l2), (BitVec.extractLsb' 40 8 s.mul0.l2), (BitVec.extractLsb' 48 8 s.mul0.l2), (BitVec.extractLsb' 56 8 s.mul0.l2), (BitVec.extractLsb' 0 8 s.mul0.l3), (BitVec.extractLsb' 8 8 s.mul0.l3), (BitVec.extractLsb' 16 8 s.mul0.l3), (BitVec.extractLsb' 24 8 s.mul0.l3), (BitVec.extractLsb' 32 8 s.mul0.l3), (BitVec.extractLsb' 40 8 s.mul0.l3), (BitVec.extractLsb' 48 8 s.mul0.l3), (BitVec.extractLsb' 56 8 s.mul0.l3), (BitVec.extractLsb' 0 8 s.mul1.l0), (BitVec.extractLsb' 8 8 s.mul1.l0), (BitVec.extractLsb' 16 8 s.mul1.l0), (BitVec.extractLsb' 24 8 s.mul1.l0), (BitVec.extractLsb' 32 8 s.mul1.l0), (BitVec.extractLsb' 40 8 s.mul1.l0), (BitVec.extractLsb' 48 8 s.mul1.l0), (BitVec.extractLsb' 56 8 s.mul1.l0), (BitVec.extractLsb' 0 8 s.mul1.l1), (BitVec.extractLsb' 8 8 s.mul1.l1), (BitVec.extractLsb' 16 8 s.mul1.l1), (BitVec.extractLsb' 24 8 s.mul1.l1), (BitVec.extractLsb' 32 8 s.mul1.l1), (BitVec.extractLsb' 40 8 s.mul1.l1), (BitVec.extractLsb' 48 8 s.mul1.l1), (BitVec.extractLsb' 56 8 s.mul1.l1), (BitVec.extractLsb' 0 8 s.mul1.l2), (BitVec.extractLsb' 8 8 s.mul1.l2), (BitVec.extractLsb' 16 8 s.mul1.l2), (BitVec.extractLsb' 24 8 s.mul1.l2), (BitVec.extractLsb' 32 8 s.mul1.l2), (BitVec.extractLsb' 40 8 s.mul1.l2), (BitVec.extractLsb' 48 8 s.mul1.l2), (BitVec.extractLsb' 56 8 s.mul1.l2), (BitVec.extractLsb' 0 8 s.mul1.l3), (BitVec.extractLsb' 8 8 s.mul1.l3), (BitVec.extractLsb' 16 8 s.mul1.l3), (BitVec.extractLsb' 24 8 s.mul1.l3), (BitVec.extractLsb' 32 8 s.mul1.l3), (BitVec.extractLsb' 40 8 s.mul1.l3), (BitVec.extractLsb' 48 8 s.mul1.l3), (BitVec.extractLsb' 56 8 s.mul1.l3), b0, b1, b2, b3, b4, b5, b6, b7, b8, b9, b10, b11, b12, b13, b14, b15, b16, b17, b18, b19, b20, b21, b22, b23, b24, b25, b26, b27, (0#8), (0#8), (0#8), (0#8), (BitVec.extractLsb' 0 8 (28#32)), (BitVec.extractLsb' 8 8 (28#32)), (BitVec.extractLsb' 16 8 (28#32)), (BitVec.extractLsb' 24 8 (28#32))]
def checkpoint29 (s : St) (b0 b1 b2 b3 b4 b5 b6 b7 b8 b9 b10 b11 b12 b13 b14 b15 b16 b17 b18 b19 b20 b21 b22 b23 b24 b25 b26 b27 b28 b29 b30 b31 : BitVec 8) : List (BitVec 8) :=
  [(BitVec.extractLsb' 0 8 s.v0.l0), (BitVec.extractLsb' 8 8 s.v0.l0), (BitVec.extractLsb' 16 8 s.v0.l0), (BitVec.extractLsb' 24 8 s.v0.l0), (BitVec.extractLsb' 32 8 s.v0.l0), (BitVec.extractLsb' 40 8 s.v0.l0), (BitVec.extractLsb' 48 8 s.v0.l0), (BitVec.extractLsb' 56 8 s.v0.l0), (BitVec.extractLsb' 0 8 s.v0.l1), (BitVec.extractLsb' 8 8 s.v0.l1), (BitVec.extractLsb' 16 8 s.v0.l1), (BitVec.extractLsb' 24 8 s.v0.l1), (BitVec.extractLsb' 32 8 s.v0.l1), (BitVec.extractLsb' 40 8 s.v0.l1), (BitVec.extractLsb' 48 8 s.v0.l1), (BitVec.extractLsb' 56 8 s.v0.l1), (BitVec.extractLsb' 0 8 s.v0.l2), (BitVec.extractLsb' 8 8 s.v0.l2), (BitVec.extractLsb' 16 8 s.v0.l2), (BitVec.extractLsb' 24 8 s.v0.l2), (BitVec.extractLsb' 32 8 s.v0.l2), (BitVec.extractLsb' 40 8 s.v0.l2), (BitVec.extractLsb' 48 8 s.v0.l2), (BitVec.extractLsb' 56 8 s.v0.l2), (BitVec.extractLsb' 0 8 s.v0.l3), (BitVec.extractLsb' 8 8 s.v0.l3), (BitVec.extractLsb' 16 8 s.v0.l3), (BitVec.extractLsb' 24 8 s.v0.l3), (BitVec.extractLsb' 32 8 s.v0.l3), (BitVec.extractLsb' 40 8 s.v0.l3), (BitVec.extractLsb' 48 8 s.v0.l3), (BitVec.extractLsb' 56 8 s.v0.l3), (BitVec.extractLsb' 0 8 s.v1.l0), (BitVec.extractLsb' 8 8 s.v1.l0), (BitVec.extractLsb' 16 8 s.v1.l0), (BitVec.extractLsb' 24 8 s.v1.l0), (BitVec.extractLsb' 32 8 s.v1.l0), (BitVec.extractLsb' 40 8 s.v1.l0), (BitVec.extractLsb' 48 8 s.v1.l0), (BitVec.extractLsb' 56 8 s.v1.l0), (BitVec.extractLsb' 0 8 s.v1.l1), (BitVec.extractLsb' 8 8 s.v1.l1), (BitVec.extractLsb' 16 8 s.v1.l1), (BitVec.extractLsb' 24 8 s.v1.l1), (BitVec.extractLsb' 32 8 s.v1.l1), (BitVec.extractLsb' 40 8 s.v1.l1), (BitVec.extractLsb' 48 8 s.v1.l1), (BitVec.extractLsb' 56 8 s.v1.l1), (BitVec.extractLsb' 0 8 s.v1.l2), (BitVec.extractLsb' 8 8 s.v1.l2), (BitVec.extractLsb' 16 8 s.v1.l2), (BitVec.extractLsb' 24 8 s.v1.l2), (BitVec.extractLsb' 32 8 s.v1.l2), (BitVec.extractLsb' 40 8 s.v1.l2), (BitVec.extractLsb' 48 8 s.v1.l2), (BitVec.extractLsb' 56 8 s.v1.l2), (BitVec.extractLsb' 0 8 s.v1.l3), (BitVec.extractLsb' 8 8 s.v1.l3), (BitVec.extractLsb' 16 8 s.v1.l3), (BitVec.extractLsb' 24 8 s.v1.l3), (BitVec.extractLsb' 32 8 s.v1.l3), (BitVec.extractLsb' 40 8 s.v1.l3), (BitVec.extractLsb' 48 8 s.v1.l3), (BitVec.extractLsb' 56 8 s.v1.l3), (BitVec.extractLsb' 0 8 s.mul0.l0), (BitVec.extractLsb' 8 8 s.mul0.l0), (BitVec.extractLsb' 16 8 s.mul0.l0), (BitVec.extractLsb' 24 8 s.mul0.l0), (BitVec.extractLsb' 32 8 s.mul0.l0), (BitVec.extractLsb' 40 8 s.mul0.l0), (BitVec.extractLsb' 48 8 s.mul0.l0), (BitVec.extractLsb' 56 8 s.mul0.l0), (BitVec.extractLsb' 0 8 s.mul0.l1), (BitVec.extractLsb' 8 8 s.mul0.l1), (BitVec.extractLsb' 16 8 s.mul0.l1), (BitVec.extractLsb' 24 8 s.mul0.l1), (BitVec.extractLsb' 32 8 s.mul0.l1), (BitVec.extractLsb' 40 8 s.mul0.l1), (BitVec.extractLsb' 48 8 s.mul0.l1), (BitVec.extractLsb' 56 8 s.mul0.l1), (BitVec.extractLsb' 0 8 s.mul0.l2), (BitVec.extractLsb' 8 8 s.mul0.l2), (BitVec.extractLsb' 16 8 s.mul0.l2), (BitVec.extractLsb' 24 8 s.mul0.l2), (BitVec.extractLsb' 32 8 s.mul0.l2), (BitVec.extractLsb' 40 8 s.mul0.l2), (BitVec.extractLsb' 48 8 s.mul0.l2), (BitVec.extractLsb' 56 8 s.mul0.l2), (BitVec.extractLsb' 0 8 s.mul0.l3), (BitVec.extractLsb' 8 8 s.mul0.l3), (BitVec.extractLsb' 16 8 s.mul0.l3), (BitVec.extractLsb' 24 8 s.mul0.l3), (BitVec.extractLsb' 32 8 s.mul0.l3), (BitVec.extractLsb' 40 8 s.mul0.l3), (BitVec.extractLsb' 48 8 s.mul0.l3), (BitVec.extractLsb' 56 8 s.mul0.l3), (BitVec.extractLsb' 0 8 s.mul1.l0), (BitVec.extractLsb' 8 8 s.mul1.l0), (BitVec.extractLsb' 16 8 s.mul1.l0), (BitVec.extractLsb' 24 8 s.mul1.l0), (BitVec.extractLsb' 32 8 s.mul1.l0), (BitVec.extractLsb' 40 8 s.mul1.l0), (BitVec.extractLsb' 48 8 s.mul1.l0), (BitVec.extractLsb' 56 8 s.mul1.l0), (BitVec.extractLsb' 0 8 s.mul1.l1), (BitVec.extractLsb' 8 8 s.mul1.l1), (BitVec.extractLsb' 16 8 s.mul1.l1), (BitVec.extractLsb' 24 8 s.mul1.l1), (BitVec.extractLsb' 32 8 s.mul1.l1), (BitVec.extractLsb' 40 8 s.mul1.l1), (BitVec.extractLsb' 48 8 s.mul1.l1), (BitVec.extractLsb' 56 8 s.mul1.l1), (BitVec.extractLsb' 0 8 s.mul1.l2), (BitVec.extractLsb' 8 8 s.mul1.l2), (BitVec.extractLsb' 16 8 s.mul1.l2), (BitVec.extractLsb' 24 8 s.mul1.l2), (BitVec.extractLsb' 32 8 s.mul1.l2), (BitVec.extractLsb' 40 8 s.mul1.l2), (BitVec.extractLsb' 48 8 s.mul1.l2), (BitVec.extractLsb' 56 8 s.mul1.l2), (BitVec.extractLsb' 0 8 s.mul1.l3), (BitVec.extractLsb' 8 8 s.mul1.l3), (BitVec.extractLsb' 16 8 s.mul1.l3), (BitVec.extractLsb' 24 8 s.mul1.l3), (BitVec.extractLsb' 32 8 s.mul1.l3), (BitVec.extractLsb' 40 8 s.mul1.l3), (BitVec.extractLsb' 48 8 s.mul1.l3), (BitVec.extractLsb' 56 8 s.mul1.l3), b0, b1, b2, b3, b4, b5, b6, b7, b8, b9, b10, b11, b12, b13, b14, b15, b16, b17, b18, b19, b20, b21, b22, b23, b24, b25, b26, b27, b28, (0#8), (0#8), (0#8), (BitVec.extractLsb' 0 8 (29#32)), (BitVec.extractLsb' 8 8 (29#32)), (BitVec.extractLsb' 16 8 (29#32)), (BitVec.extractLsb' 24 8 (29#32))]
def checkpoint30 (s : St) (b0 b1 b2 b3 b4 b5 b6 b7 b8 b9 b10 b11 b12 b13 b14 b15 b16 b17 b18 b19 b20 b21 b22 b23 b24 b25 b26 b27 b28 b29 b30 b31 : BitVec 8) : List (BitVec 8) :=
  [(BitVec.extractLsb' 0 8 s.v0.l0), (BitVec.extractLsb' 8 8 s.v0.l0), (BitVec.extractLsb' 16 8 s.v0.l0), (BitVec.extractLsb' 24 8 s.v0.l0), (BitVec.extractLsb' 32 8 s.v0.l0), (BitVec.extractLsb' 40 8 s.v0.l0), (BitVec.extractLsb' 48 8 s.v0.l0), (BitVec.extractLsb' 56 8 s.v0.l0), (BitVec.extractLsb' 0 8 s.v0.l1), (BitVec.extractLsb' 8 8 s.v0.l1), (BitVec.extractLsb' 16 8 s.v0.l1), (BitVec.extractLsb' 24 8 s.v0.l1), (BitVec.extractLsb' 32 8 s.v0.l1), (BitVec.extractLsb' 40 8 s.v0.l1), (BitVec.extractLsb' 48 8 s.v0.l1), (BitVec.extractLsb' 56 8 s.v0.l1), (BitVec.extractLsb' 0 8 s.v0.l2), (BitVec.extractLsb' 8 8 s.v0.l2), (BitVec.extractLsb' 16 8 s.v0.l2), (BitVec.extractLsb' 24 8 s.v0.l2), (BitVec.extractLsb' 32 8 s.v0.l2), (BitVec.extractLsb' 40 8 s.v0.l2), (BitVec.extractLsb' 48 8 s.v0.l2), (BitVec.extractLsb' 56 8 s.v0.l2), (BitVec.extractLsb' 0 8 s.v0.l3), (BitVec.extractLsb' 8 8 s.v0.l3), (BitVec.extractLsb' 16 8 s.v0.l3), (BitVec.extractLsb' 24 8 s.v0.l3), (BitVec.extractLsb' 32 8 s.v0.l3), (BitVec.extractLsb' 40 8 s.v0.l3), (BitVec.extractLsb' 48 8 s.v0.l3), (BitVec.extractLsb' 56 8 s.v0.l3), (BitVec.extractLsb' 0 8 s.v1.l0), (BitVec.extractLsb' 8 8 s.v1.l0), (BitVec.extractLsb' 16 8 s.v1.l0), (BitVec.extractLsb' 24 8 s.v1.l0), (BitVec.extractLsb' 32 8 s.v1.l0), (BitVec.extractLsb' 40 8 s.v1.l0), (BitVec.extractLsb' 48 8 s.v1.l0), (BitVec.extractLsb' 56 8 s.v1.l0), (BitVec.extractLsb' 0 8 s.v1.l1), (BitVec.extractLsb' 8 8 s.v1.l1), (BitVec.extractLsb' 16 8 s.v1.l1), (BitVec.extractLsb' 24 8 s.v1.l1), (BitVec.extractLsb' 32 8 s.v1.l1), (BitVec.extractLsb' 40 8 s.v1.l1), (BitVec.extractLsb' 48 8 s.v1.l1), (BitVec.extractLsb' 56 8 s.v1.l1), (BitVec.extractLsb' 0 8 s.v1.l2), (BitVec.extractLsb' 8 8 s.v1.l2), (BitVec.extractLsb' 16 8 s.v1.l2), (BitVec.extractLsb' 24 8 s.v1.l2), (BitVec.extractLsb' 32 8 s.v1.l2), (BitVec.extractLsb' 40 8 s.v1.l2), (BitVec.extractLsb' 48 8 s.v1.l2), (BitVec.extractLsb' 56 8 s.v1.l2), (BitVec.extractLsb' 0 8 s.v1.l3), (BitVec.extractLsb' 8 8 s.v1.l3), (BitVec.extractLsb' 16 8 s.v1.l3), (BitVec.extractLsb' 24 8 s.v1.l3), (BitVec.extractLsb' 32 8 s.v1.l3), (BitVec.extractLsb' 40 8 s.v1.l3), (BitVec.extractLsb' 48 8 s.v1.l3), (BitVec.extractLsb' 56 8 s.v1.l3), (BitVec.extractLsb' 0 8 s.mul0.l0), (BitVec.extractLsb' 8 8 s.mul0.l0), (BitVec.extractLsb' 16 8 s.mul0.l0), (BitVec.extractLsb' 24 8 s.mul0.l0), (BitVec.extractLsb' 32 8 s.mul0.l0), (BitVec.extractLsb' 40 8 s.mul0.l0), (BitVec.extractLsb' 48 8 s.mul0.l0), (BitVec.extractLsb' 56 8 s.mul0.l0), (BitVec.extractLsb' 0 8 s.mul0.l1), (BitVec.extractLsb' 8 8 s.mul0.l1), (BitVec.extractLsb' 16 8 s.mul0.l1), (BitVec.extractLsb' 24 8 s.mul0.l1), (BitVec.extractLsb' 32 8 s.mul0.l1), (BitVec.extractLsb' 40 8 s.mul0.l1), (BitVec.extractLsb' 48 8 s.mul0.l1), (BitVec.extractLsb' 56 8 s.mul0.l1), (BitVec.extractLsb' 0 8 s.mul0.l2), (BitVec.extractLsb' 8 8 s.mul0.l2), (BitVec.extractLsb' 16 8 s.mul0.l2), (BitVec.extractLsb' 24 8 s.mul0.l2), (BitVec.extractLsb' 32 8 s.mul0.l2), (BitVec.extractLsb' 40 8 s.mul0.l2), (BitVec.extractLsb' 48 8 s.mul0.l2), (BitVec.extractLsb' 56 8 s.mul0.l2), (BitVec.extractLsb' 0 8 s.mul0.l3), (BitVec.extractLsb' 8 8 s.mul0.l3), (BitVec.extractLsb' 16 8 s.mul0.l3), (BitVec.extractLsb' 24 8 s.mul0.l3), (BitVec.extractLsb' 32 8 s.mul0.l3), (BitVec.extractLsb' 40 8 s.mul0.l3), (BitVec.extractLsb' 48 8 s.mul0.l3), (BitVec.extractLsb' 56 8 s.mul0.l3), (BitVec.extractLsb' 0 8 s.mul1.l0), (BitVec.extractLsb' 8 8 s.mul1.l0), (BitVec.extractLsb' 16 8 s.mul1.l0), (BitVec.extractLsb' 24 8 s.mul1.l0), (BitVec.extractLsb' 32 8 s.mul1.l0), (BitVec.extractLsb' 40 8 s.mul1.l0), (BitVec.extractLsb' 48 8 s.mul1.l0), (BitVec.extractLsb' 56 8 s.mul1.l0), (BitVec.extractLsb' 0 8 s.mul1.l1), (BitVec.extractLsb' 8 8 s.mul1.l1), (BitVec.extractLsb' 16 8 s.mul1.l1), (BitVec.extractLsb' 24 8 s.mul1.l1), (BitVec.extractLsb' 32 8 s.mul1.l1), (BitVec.extractLsb' 40 8 s.mul1.l1), (BitVec.extractLsb' 48 8 s.mul1.l1), (BitVec.extractLsb' 56 8 s.mul1.l1), (BitVec.extractLsb' 0 8 s.mul1.l2), (BitVec.extractLsb' 8 8 s.mul1.l2), (BitVec.extractLsb' 16 8 s.mul1.l2), (BitVec.extractLsb' 24 8 s.mul1.l2), (BitVec.extractLsb' 32 8 s.mul1.l2), (BitVec.extractLsb' 40 8 s.mul1.l2), (BitVec.extractLsb' 48 8 s.mul1.l2), (BitVec.extractLsb' 56 8 s.mul1.l2), (BitVec.extractLsb' 0 8 s.mul1.l3), (BitVec.extractLsb' 8 8 s.mul1.l3), (BitVec.extractLsb' 16 8 s.mul1.l3), (BitVec.extractLsb' 24 8 s.mul1.l3), (BitVec.extractLsb' 32 8 s.mul1.l3), (BitVec.extractLsb' 40 8 s.mul1.l3), (BitVec.extractLsb' 48 8 s.mul1.l3), (BitVec.extractLsb' 56 8 s.mul1.l3), b0, b1, b2, b3, b4, b5, b6, b7, b8, b9, b10, b11, b12, b13, b14, b15, b16, b17, b18, b19, b20, b21, b22, b23, b24, b25, b26, b27, b28, b29, (0#8), (0#8), (BitVec.extractLsb' 0 8 (30#32)), (BitVec.extractLsb' 8 8 (30#32)), (BitVec.extractLsb' 16 8 (30#32)), (BitVec.extractLsb' 24 8 (30#32))]
def checkpoint31 (s : St) (b0 b1 b2 b3 b4 b5 b6 b7 b8 b9 b10 b11 b12 b13 b14 b15 b16 b17 b18 b19 b20 b21 b22 b23 b24 b25 b26 b27 b28 b29 b30 b31 : BitVec 8) : List (BitVec 8) :=
  [(BitVec.extractLsb' 0 8 s.v0.l0), (BitVec.extractLsb' 8 8 s.v0.l0), (BitVec.extractLsb' 16 8 s.v0.l0), (BitVec.extractLsb' 24 8 s.v0.l0), (BitVec.extractLsb' 32 8 s.v0.l0), (BitVec.extractLsb' 40 8 s.v0.l0), (BitVec.extractLsb' 48 8 s.v0.l0), (BitVec.extractLsb' 56 8 s.v0.l0), (BitVec.extractLsb' 0 8 s.v0.l1), (BitVec.extractLsb' 8 8 s.v0.l1), (BitVec.extractLsb' 16 8 s.v0.l1), (BitVec.extractLsb' 24 8 s.v0.l1), (BitVec.extractLsb' 32 8 s.v0.l1), (BitVec.extractLsb' 40 8 s.v0.l1), (BitVec.extractLsb' 48 8 s.v0.l1), (BitVec.extractLsb' 56 8 s.v0.l1), (BitVec.extractLsb' 0 8 s.v0.l2), (BitVec.extractLsb' 8 8 s.v0.l2), (BitVec.extractLsb' 16 8 s.v0.l2), (BitVec.extractLsb' 24 8 s.v0.l2), (BitVec.extractLsb' 32 8 s.v0.l2), (BitVec.extractLsb' 40 8 s.v0.l2), (BitVec.extractLsb' 48 8 s.v0.l2), (BitVec.extractLsb' 56 8 s.v0.l2), (BitVec.extractLsb' 0 8 s.v0.l3), (BitVec.extractLsb' 8 8 s.v0.l3), (BitVec.extractLsb' 16 8 s.v0.l3), (BitVec.extractLsb' 24 8 s.v0.l3), (BitVec.extractLsb' 32 8 s.v0.l3), (BitVec.extractLsb' 40 8 s.v0.l3), (BitVec.extractLsb' 48 8 s.v0.l3), (BitVec.extractLsb' 56 8 s.v0.l3), (BitVec.extractLsb' 0 8 s.v1.l0), (BitVec.extractLsb' 8 8 s.v1.l0), (BitVec.extractLsb' 16 8 s.v1.l0), (BitVec.extractLsb' 24 8 s.v1.l0), (BitVec.extractLsb' 32 8 s.v1.l0), (BitVec.extractLsb' 40 8 s.v1.l0), (BitVec.extractLsb' 48 8 s.v1.l0), (BitVec.extractLsb' 56 8 s.v1.l0), (BitVec.extractLsb' 0 8 s.v1.l1), (BitVec.extractLsb' 8 8 s.v1.l1), (BitVec.extractLsb' 16 8 s.v1.l1), (BitVec.extractLsb' 24 8 s.v1.l1), (BitVec.extractLsb' 32 8 s.v1.l1), (BitVec.extractLsb' 40 8 s.v1.l1), (BitVec.extractLsb' 48 8 s.v1.l1), (BitVec.extractLsb' 56 8 s.v1.l1), (BitVec.extractLsb' 0 8 s.v1.l2), (BitVec.extractLsb' 8 8 s.v1.l2), (BitVec.extractLsb' 16 8 s.v1.l2), (BitVec.extractLsb' 24 8 s.v1.l2), (BitVec.extractLsb' 32 8 s.v1.l2), (BitVec.extractLsb' 40 8 s.v1.l2), (BitVec.extractLsb' 48 8 s.v1.l2), (BitVec.extractLsb' 56 8 s.v1.l2), (BitVec.extractLsb' 0 8 s.v1.l3), (BitVec.extractLsb' 8 8 s.v1.l3), (BitVec.extractLsb' 16 8 s.v1.l3), (BitVec.extractLsb' 24 8 s.v1.l3), (BitVec.extractLsb' 32 8 s.v1.l3), (BitVec.extractLsb' 40 8 s.v1.l3), (BitVec.extractLsb' 48 8 s.v1.l3), (BitVec.extractLsb' 56 8 s.v1.l3), (BitVec.extractLsb' 0 8 s.mul0.l0), (BitVec.extractLsb' 8 8 s.mul0.l0), (BitVec.extractLsb' 16 8 s.mul0.l0), (BitVec.extractLsb' 24 8 s.mul0.l0), (BitVec.extractLsb' 32 8 s.mul0.l0), (BitVec.extractLsb' 40 8 s.mul0.l0), (BitVec.extractLsb' 48 8 s.mul0.l0), (BitVec.extractLsb' 56 8 s.mul0.l0), (BitVec.extractLsb' 0 8 s.mul0.l1), (BitVec.extractLsb' 8 8 s.mul0.l1), (BitVec.extractLsb' 16 8 s.mul0.l1), (BitVec.extractLsb' 24 8 s.mul0.l1), (BitVec.extractLsb' 32 8 s.mul0.l1), (BitVec.extractLsb' 40 8 s.mul0.l1), (BitVec.extractLsb' 48 8 s.mul0.l1), (BitVec.extractLsb' 56 8 s.mul0.l1), (BitVec.extractLsb' 0 8 s.mul0.l2), (BitVec.extractLsb' 8 8 s.mul0.l2), (BitVec.extractLsb' 16 8 s.mul0.l2), (BitVec.extractLsb' 24 8 s.mul0.l2), (BitVec.extractLsb' 32 8 s.mul0.l2), (BitVec.extractLsb' 40 8 s.mul0.l2), (BitVec.extractLsb' 48 8 s.mul0.l2), (BitVec.extractLsb' 56 8 s.mul0.l2), (BitVec.extractLsb' 0 8 s.mul0.l3), (BitVec.extractLsb' 8 8 s.mul0.l3), (BitVec.extractLsb' 16 8 s.mul0.l3), (BitVec.extractLsb' 24 8 s.mul0.l3), (BitVec.extractLsb' 32 8 s.mul0.l3), (BitVec.extractLsb' 40 8 s.mul0.l3), (BitVec.extractLsb' 48 8 s.mul0.l3), (BitVec.extractLsb' 56 8 s.mul0.l3), (BitVec.extractLsb' 0 8 s.mul1.l0), (BitVec.extractLsb' 8 8 s.mul1.l0), (BitVec.extractLsb' 16 8 s.mul1.l0), (BitVec.extractLsb' 24 8 s.mul1.l0), (BitVec.extractLsb' 32 8 s.mul1.l0), (BitVec.extractLsb' 40 8 s.mul1.l0), (BitVec.extractLsb' 48 8 s.mul1.l0), (BitVec.extractLsb' 56 8 s.mul1.l0), (BitVec.extractLsb' 0 8 s.mul1.l1), (BitVec.extractLsb' 8 8 s.mul1.l1), (BitVec.extractLsb' 16 8 s.mul1.l1), (BitVec.extractLsb' 24 8 s.mul1.l1), (BitVec.extractLsb' 32 8 s.mul1.l1), (BitVec.extractLsb' 40 8 s.mul1.l1), (BitVec.extractLsb' 48 8 s.mul1.l1), (BitVec.extractLsb' 56 8 s.mul1.l1), (BitVec.extractLsb' 0 8 s.mul1.l2), (BitVec.extractLsb' 8 8 s.mul1.l2), (BitVec.extractLsb' 16 8 s.mul1.l2), (BitVec.extractLsb' 24 8 s.mul1.l2), (BitVec.extractLsb' 32 8 s.mul1.l2), (BitVec.extractLsb' 40 8 s.mul1.l2), (BitVec.extractLsb' 48 8 s.mul1.l2), (BitVec.extractLsb' 56 8 s.mul1.l2), (BitVec.extractLsb' 0 8 s.mul1.l3), (BitVec.extractLsb' 8 8 s.mul1.l3), (BitVec.extractLsb' 16 8 s.mul1.l3), (BitVec.extractLsb' 24 8 s.mul1.l3), (BitVec.extractLsb' 32 8 s.mul1.l3), (BitVec.extractLsb' 40 8 s.mul1.l3), (BitVec.extractLsb' 48 8 s.mul1.l3), (BitVec.extractLsb' 56 8 s.mul1.l3), b0, b1, b2, b3, b4, b5, b6, b7, b8, b9, b10, b11, b12, b13, b14, b15, b16, b17, b18, b19, b20, b21, b22, b23, b24, b25, b26, b27, b28, b29, b30, (0#8), (BitVec.extractLsb' 0 8 (31#32)), (BitVec.extractLsb' 8 8 (31#32)), (BitVec.extractLsb' 16 8 (31#32)), (BitVec.extractLsb' 24 8 (31#32))]
def checkpoint32 (s : St) (b0 b1 b2 b3 b4 b5 b6 b7 b8 b9 b10 b11 b12 b13 b14 b15 b16 b17 b18 b19 b20 b21 b22 b23 b24 b25 b26 b27 b28 b29 b30 b31 : BitVec 8) : List (BitVec 8) :=
  [(BitVec.extractLsb' 0 8 s.v0.l0), (BitVec.extractLsb' 8 8 s.v0.l0), (BitVec.extractLsb' 16 8 s.v0.l0), (BitVec.extractLsb' 24 8 s.v0.l0), (BitVec.extractLsb' 32 8 s.v0.l0), (BitVec.extractLsb' 40 8 s.v0.l0), (BitVec.extractLsb' 48 8 s.v0.l0), (BitVec.extractLsb' 56 8 s.v0.l0), (BitVec.extractLsb' 0 8 s.v0.l1), (BitVec.extractLsb' 8 8 s.v0.l1), (BitVec.extractLsb' 16 8 s.v0.l1), (BitVec.extractLsb' 24 8 s.v0.l1), (BitVec.extractLsb' 32 8 s.v0.l1), (BitVec.extractLsb' 40 8 s.v0.l1), (BitVec.extractLsb' 48 8 s.v0.l1), (BitVec.extractLsb' 56 8 s.v0.l1), (BitVec.extractLsb' 0 8 s.v0.l2), (BitVec.extractLsb' 8 8 s.v0.l2), (BitVec.extractLsb' 16 8 s.v0.l2), (BitVec.extractLsb' 24 8 s.v0.l2), (BitVec.extractLsb' 32 8 s.v0.l2), (BitVec.extractLsb' 40 8 s.v0.l2), (BitVec.extractLsb' 48 8 s.v0.l2), (BitVec.extractLsb' 56 8 s.v0.l2), (BitVec.extractLsb' 0 8 s.v0.l3), (BitVec.extractLsb' 8 8 s.v0.l3), (BitVec.extractLsb' 16 8 s.v0.l3), (BitVec.extractLsb' 24 8 s.v0.l3), (BitVec.extractLsb' 32 8 s.v0.l3), (BitVec.extractLsb' 40 8 s.v0.l3), (BitVec.extractLsb' 48 8 s.v0.l3), (BitVec.extractLsb' 56 8 s.v0.l3), (BitVec.extractLsb' 0 8 s.v1.l0), (BitVec.extractLsb' 8 8 s.v1.l0), (BitVec.extractLsb' 16 8 s.v1.l0), (BitVec.extractLsb' 24 8 s.v1.l0), (BitVec.extractLsb' 32 8 s.v1.l0), (BitVec.extractLsb' 40 8 s.v1.l0), (BitVec.extractLsb' 48 8 s.v1.l0), (BitVec.extractLsb' 56 8 s.v1.l0), (BitVec.extractLsb' 0 8 s.v1.l1), (BitVec.extractLsb' 8 8 s.v1.l1), (BitVec.extractLsb' 16 8 s.v1.l1), (BitVec.extractLsb' 24 8 s.v1.l1), (BitVec.extractLsb' 32 8 s.v1.l1), (BitVec.extractLsb' 40 8 s.v1.l1), (BitVec.extractLsb' 48 8 s.v1.l1), (BitVec.extractLsb' 56 8 s.v1.l1), (BitVec.extractLsb' 0 8 s.v1.l2), (BitVec.extractLsb' 8 8 s.v1.l2), (BitVec.extractLsb' 16 8 s.v1.l2), (BitVec.extractLsb' 24 8 s.v1.l2), (BitVec.extractLsb' 32 8 s.v1.l2), (BitVec.extractLsb' 40 8 s.v1.l2), (BitVec.extractLsb' 48 8 s.v1.l2), (BitVec.extractLsb' 56 8 s.v1.l2), (BitVec.extractLsb' 0 8 s.v1.l3), (BitVec.extractLsb' 8 8 s.v1.l3), (BitVec.extractLsb' 16 8 s.v1.l3), (BitVec.extractLsb' 24 8 s.v1.l3), (BitVec.extractLsb' 32 8 s.v1.l3), (BitVec.extractLsb' 40 8 s.v1.l3), (BitVec.extractLsb' 48 8 s.v1.l3), (BitVec.extractLsb' 56 8 s.v1.l3), (BitVec.extractLsb' 0 8 s.mul0.l0), (BitVec.extractLsb' 8 8 s.mul0.l0), (BitVec.extractLsb' 16 8 s.mul0.l0), (BitVec.extractLsb' 24 8 s.mul0.l0), (BitVec.extractLsb' 32 8 s.mul0.l0), (BitVec.extractLsb' 40 8 s.mul0.l0), (BitVec.extractLsb' 48 8 s.mul0.l0), (BitVec.extractLsb' 56 8 s.mul0.l0), (BitVec.extractLsb' 0 8 s.mul0.l1), (BitVec.extractLsb' 8 8 s.mul0.l1), (BitVec.extractLsb' 16 8 s.mul0.l1), (BitVec.extractLsb' 24 8 s.mul0.l1), (BitVec.extractLsb' 32 8 s.mul0.l1), (BitVec.extractLsb' 40 8 s.mul0.l1), (BitVec.extractLsb' 48 8 s.mul0.l1), (BitVec.extractLsb' 56 8 s.mul0.l1), (BitVec.extractLsb' 0 8 s.mul0.l2), (BitVec.extractLsb' 8 8 s.mul0.l2), (BitVec.extractLsb' 16 8 s.mul0.l2), (BitVec.extractLsb' 24 8 s.mul0.l2), (BitVec.extractLsb' 32 8 s.mul0.l2), (BitVec.extractLsb' 40 8 s.mul0.l2), (BitVec.extractLsb' 48 8 s.mul0.l2), (BitVec.extractLsb' 56 8 s.mul0.l2), (BitVec.extractLsb' 0 8 s.mul0.l3), (BitVec.extractLsb' 8 8 s.mul0.l3), (BitVec.extractLsb' 16 8 s.mul0.l3), (BitVec.extractLsb' 24 8 s.mul0.l3), (BitVec.extractLsb' 32 8 s.mul0.l3), (BitVec.extractLsb' 40 8 s.mul0.l3), (BitVec.extractLsb' 48 8 s.mul0.l3), (BitVec.extractLsb' 56 8 s.mul0.l3), (BitVec.extractLsb' 0 8 s.mul1.l0), (BitVec.extractLsb' 8 8 s.mul1.l0), (BitVec.extractLsb' 16 8 s.mul1.l0), (BitVec.extractLsb' 24 8 s.mul1.l0), (BitVec.extractLsb' 32 8 s.mul1.l0), (BitVec.extractLsb' 40 8 s.mul1.l0), (BitVec.extractLsb' 48 8 s.mul1.l0), (BitVec.extractLsb' 56 8 s.mul1.l0), (BitVec.extractLsb' 0 8 s.mul1.l1), (BitVec.extractLsb' 8 8 s.mul1.l1), (BitVec.extractLsb' 16 8 s.mul1.l1), (BitVec.extractLsb' 24 8 s.mul1.l1), (BitVec.extractLsb' 32 8 s.mul1.l1), (BitVec.extractLsb' 40 8 s.mul1.l1), (BitVec.extractLsb' 48 8 s.mul1.l1), (BitVec.extractLsb' 56 8 s.mul1.l1), (BitVec.extractLsb' 0 8 s.mul1.l2), (BitVec.extractLsb' 8 8 s.mul1.l2), (BitVec.extractLsb' 16 8 s.mul1.l2), (BitVec.extractLsb' 24 8 s.mul1.l2), (BitVec.extractLsb' 32 8 s.mul1.l2), (BitVec.extractLsb' 40 8 s.mul1.l2), (BitVec.extractLsb' 48 8 s.mul1.l2), (BitVec.extractLsb' 56 8 s.mul1.l2), (BitVec.extractLsb' 0 8 s.mul1.l3), (BitVec.extractLsb' 8 8 s.mul1.l3), (BitVec.extractLsb' 16 8 s.mul1.l3), (BitVec.extractLsb' 24 8 s.mul1.l3), (BitVec.extractLsb' 32 8 s.mul1.l3), (BitVec.extractLsb' 40 8 s.mul1.l3), (BitVec.extractLsb' 48 8 s.mul1.l3), (BitVec.extractLsb' 56 8 s.mul1.l3), b0, b1, b2, b3, b4, b5, b6, b7, b8, b9, b10, b11, b12, b13, b14, b15, b16, b17, b18, b19, b20, b21, b22, b23, b24, b25, b26, b27, b28, b29, b30, b31, (BitVec.extractLsb' 0 8 (32#32)), (BitVec.extractLsb' 8 8 (32#32)), (BitVec.extractLsb' 16 8 (32#32)), (BitVec.extractLsb' 24 8 (32#32))]

def fromCheckpoint0 (b0 b1 b2 b3 b4 b5 b6 b7 b8 b9 b10 b11 b12 b13 b14 b15 b16 b17 b18 b19 b20 b21 b22 b23 b24 b25 b26 b27 b28 b29 b30 b31 b32 b33 b34 b35 b36 b37 b38 b39 b40 b41 b42 b43 b44 b45 b46 b47 b48 b49 b50 b51 b52 b53 b54 b55 b56 b57 b58 b59 b60 b61 b62 b63 b64 b65 b66 b67 b68 b69 b70 b71 b72 b73 b74 b75 b76 b77 b78 b79 b80 b81 b82 b83 b84 b85 b86 b87 b88 b89 b90 b91 b92 b93 b94 b95 b96 b97 b98 b99 b100 b101 b102 b103 b104 b105 b106 b107 b108 b109 b110 b111 b112 b113 b114 b115 b116 b117 b118 b119 b120 b121 b122 b123 b124 b125 b126 b127 b128 b129 b130 b131 b132 b133 b134 b135 b136 b137 b138 b139 b140 b141 b142 b143 b144 b145 b146 b147 b148 b149 b150 b151 b152 b153 b154 b155 b156 b157 b158 b159 b160 b161 b162 b163 : BitVec 8) : P.State :=
  let t1 : BitVec 64 := (HH.le64 [b0, b1, b2, b3, b4, b5, b6, b7])
  let t2 : BitVec 64 := (HH.le64 [b8, b9, b10, b11, b12, b13, b14, b15])
  let t3 : BitVec 64 := (HH.le64 [b16, b17, b18, b19, b20, b21, b22, b23])
  let t4 : BitVec 64 := (HH.le64 [b24, b25, b26, b27, b28, b29, b30, b31])
  let t5 : BitVec 64 := (HH.le64 [b32, b33, b34, b35, b36, b37, b38, b39])
  let t6 : BitVec 64 := (HH.le64 [b40, b41, b42, b43, b44, b45, b46, b47])
  let t7 : BitVec 64 := (HH.le64 [b48, b49, b50, b51, b52, b53, b54, b55])
  let t8 : BitVec 64 := (HH.le64 [b56, b57, b58, b59, b60, b61, b62, b63])
  let t9 : BitVec 64 := (HH.le64 [b64, b65, b66, b67, b68, b69, b70, b71])
  let t10 : BitVec 64 := (HH.le64 [b72, b73, b74, b75, b76, b77, b78, b79])
  let t11 : BitVec 64 := (HH.le64 [b80, b81, b82, b83, b84, b85, b86, b87])
  let t12 : BitVec 64 := (HH.le64 [b88, b89, b90, b91, b92, b93, b94, b95])
  let t13 : BitVec 64 := (HH.le64 [b96, b97, b98, b99, b100, b101, b102, b103])
  let t14 : BitVec 64 := (HH.le64 [b104, b105, b106, b107, b108, b109, b110, b111])
  let t15 : BitVec 64 := (HH.le64 [b112, b113, b114, b115, b116, b117, b118, b119])
  let t16 : BitVec 64 := (HH.le64 [b120, b121, b122, b123, b124, b125, b126, b127])
  ⟨⟨⟨t1, t2, t3, t4⟩, ⟨t5, t6, t7, t8⟩, ⟨t9, t10, t11, t12⟩, ⟨t13, t14, t15, t16⟩⟩, ⟨[(0#8), (0#8), (0#8), (0#8), (0#8), (0#8), (0#8), (0#8), (0#8), (0#8), (0#8), (0#8), (0#8), (0#8), (0#8), (0#8), (0#8), (0#8), (0#8), (0#8), (0#8), (0#8), (0#8), (0#8), (0#8), (0#8), (0#8), (0#8), (0#8), (0#8), (0#8), (0#8)], 0⟩⟩
def fromCheckpoint1 (b0 b1 b2 b3 b4 b5 b6 b7 b8 b9 b10 b11 b12 b13 b14 b15 b16 b17 b18 b19 b20 b21 b22 b23 b24 b25 b26 b27 b28 b29 b30 b31 b32 b33 b34 b35 b36 b37 b38 b39 b40 b41 b42 b43 b44 b45 b46 b47 b48 b49 b50 b51 b52 b53 b54 b55 b56 b57 b58 b59 b60 b61 b62 b63 b64 b65 b66 b67 b68 b69 b70 b71 b72 b73 b74 b75 b76 b77 b78 b79 b80 b81 b82 b83 b84 b85 b86 b87 b88 b89 b90 b91 b92 b93 b94 b95 b96 b97 b98 b99 b100 b101 b102 b103 b104 b105 b106 b107 b108 b109 b110 b111 b112 b113 b114 b115 b116 b117 b118 b119 b120 b121 b122 b123 b124 b125 b126 b127 b128 b129 b130 b131 b132 b133 b134 b135 b136 b137 b138 b139 b140 b141 b142 b143 b144 b145 b146 b147 b148 b149 b150 b151 b152 b153 b154 b155 b156 b157 b158 b159 b160 b161 b162 b163 : BitVec 8) : P.State :=
  let t1 : BitVec 64 := (HH.le64 [b0, b1, b2, b3, b4, b5, b6, b7])
  let t2 : BitVec 64 := (HH.le64 [b8, b9, b10, b11, b12, b13, b14, b15])
  let t3 : BitVec 64 := (HH.le64 [b16, b17, b18, b19, b20, b21, b22, b23])
  let t4 : BitVec 64 := (HH.le64 [b24, b25, b26, b27, b28, b29, b30, b31])
  let t5 : BitVec 64 := (HH.le64 [b32, b33, b34, b35, b36, b37, b38, b39])
  let t6 : BitVec 64 := (HH.le64 [b40, b41, b42, b43, b44, b45, b46, b47])
  let t7 : BitVec 64 := (HH.le64 [b48, b49, b50, b51, b52, b53, b54, b55])
  let t8 : BitVec 64 := (HH.le64 [b56, b57, b58, b59, b60, b61, b62, b63])
  let t9 : BitVec 64 := (HH.le64 [b64, b65, b66, b67, b68, b69, b70, b71])
  let t10 : BitVec 64 := (HH.le64 [b72, b73, b74, b75, b76, b77, b78, b79])
  let t11 : BitVec 64 := (HH.le64 [b80, b81, b82, b83, b84, b85, b86, b87])
  let t12 : BitVec 64 := (HH.le64 [b88, b89, b90, b91, b92, b93, b94, b95])
  let t13 : BitVec 64 := (HH.le64 [b96, b97, b98, b99, b100, b101, b102, b103])
  let t14 : BitVec 64 := (HH.le64 [b104, b105, b106, b107, b108, b109, b110, b111])
  let t15 : BitVec 64 := (HH.le64 [b112, b113, b114, b115, b116, b117, b118, b119])
  let t16 : BitVec 64 := (HH.le64 [b120, b121, b122, b123, b124, b125, b126, b127])
  ⟨⟨⟨t1, t2, t3, t4⟩, ⟨t5, t6, t7, t8⟩, ⟨t9, t10, t11, t12⟩, ⟨t13, t14, t15, t16⟩⟩, ⟨[b128, (0#8), (0#8), (0#8), (0#8), (0#8), (0#8), (0#8), (0#8), (0#8), (0#8), (0#8), (0#8), (0#8), (0#8), (0#8), (0#8), (0#8), (0#8), (0#8), (0#8), (0#8), (0#8), (0#8), (0#8), (0#8), (0#8), (0#8), (0#8), (0#8), (0#8), (0#8)], 1⟩⟩
def fromCheckpoint2 (b0 b1 b2 b3 b4 b5 b6 b7 b8 b9 b10 b11 b12 b13 b14 b15 b16 b17 b18 b19 b20 b21 b22 b23 b24 b25 b26 b27 b28 b29 b30 b31 b32 b33 b34 b35 b36 b37 b38 b39 b40 b41 b42 b43 b44 b45 b46 b47 b48 b49 b50 b51 b52 b53 b54 b55 b56 b57 b58 b59 b60 b61 b62 b63 b64 b65 b66 b67 b68 b69 b70 b71 b72 b73 b74 b75 b76 b77 b78 b79 b80 b81 b82 b83 b84 b85 b86 b87 b88 b89 b90 b91 b92 b93 b94 b95 b96 b97 b98 b99 b100 b101 b102 b103 b104 b105 b106 b107 b108 b109 b110 b111 b112 b113 b114 b115 b116 b117 b118 b119 b120 b121 b122 b123 b124 b125 b126 b127 b128 b129 b130 b131 b132 b133 b134 b135 b136 b137 b138 b139 b140 b141 b142 b143 b144 b145 b146 b147 b148 b149 b150 b151 b152 b153 b154 b155 b156 b157 b158 b159 b160 b161 b162 b163 : BitVec 8) : P.State :=
  let t1 : BitVec 64 := (HH.le64 [b0, b1, b2, b3, b4, b5, b6, b7])
  let t2 : BitVec 64 := (HH.le64 [b8, b9, b10, b11, b12, b13, b14, b15])
  let t3 : BitVec 64 := (HH.le64 [b16, b17, b18, b19, b20, b21, b22, b23])
  let t4 : BitVec 64 := (HH.le64 [b24, b25, b26, b27, b28, b29, b30, b31])
  let t5 : BitVec 64 := (HH.le64 [b32, b33, b34, b35, b36, b37, b38, b39])
  let t6 : BitVec 64 := (HH.le64 [b40, b41, b42, b43, b44, b45, b46, b47])
  let t7 : BitVec 64 := (HH.le64 [b48, b49, b50, b51, b52, b53, b54, b55])
  let t8 : BitVec 64 := (HH.le64 [b56, b57, b58, b59, b60, b61, b62, b63])
  let t9 : BitVec 64 := (HH.le64 [b64, b65, b66, b67, b68, b69, b70, b71])
  let t10 : BitVec 64 := (HH.le64 [b72, b73, b74, b75, b76, b77, b78, b79])
  let t11 : BitVec 64 := (HH.le64 [b80, b81, b82, b83, b84, b85, b86, b87])
  let t12 : BitVec 64 := (HH.le64 [b88, b89, b90, b91, b92, b93, b94, b95])
  let t13 : BitVec 64 := (HH.le64 [b96, b97, b98, b99, b100, b101, b102, b103])
  let t14 : BitVec 64 := (HH.le64 [b104, b105, b106, b107, b108, b109, b110, b111])
  let t15 : BitVec 64 := (HH.le64 [b112, b113, b114, b115, b116, b117, b118, b119])
  let t16 : BitVec 64 := (HH.le64 [b120, b121, b122, b123, b124, b125, b126, b127])
  ⟨⟨⟨t1, t2, t3, t4⟩, ⟨t5, t6, t7, t8⟩, ⟨t9, t10, t11, t12⟩, ⟨t13, t14, t15, t16⟩⟩, ⟨[b128, b129, (0#8), (0#8), (0#8), (0#8), (0#8), (0#8), (0#8), (0#8), (0#8), (0#8), (0#8), (0#8), (0#8), (0#8), (0#8), (0#8), (0#8), (0#8), (0#8), (0#8), (0#8), (0#8), (0#8), (0#8), (0#8), (0#8), (0#8), (0#8), (0#8), (0#8)], 2⟩⟩
def fromCheckpoint3 (b0 b1 b2 b3 b4 b5 b6 b7 b8 b9 b10 b11 b12 b13 b14 b15 b16 b17 b18 b19 b20 b21 b22 b23 b24 b25 b26 b27 b28 b29 b30 b31 b32 b33 b34 b35 b36 b37 b38 b39 b40 b41 b42 b43 b44 b45 b46 b47 b48 b49 b50 b51 b52 b53 b54 b55 b56 b57 b58 b59 b60 b61 b62 b63 b64 b65 b66 b67 b68 b69 b70 b71 b72 b73 b74 b75 b76 b77 b78 b79 b80 b81 b82 b83 b84 b85 b86 b87 b88 b89 b90 b91 b92 b93 b94 b95 b96 b97 b98 b99 b100 b101 b102 b103 b104 b105 b106 b107 b108 b109 b110 b111 b112 b113 b114 b115 b116 b117 b118 b119 b120 b121 b122 b123 b124 b125 b126 b127 b128 b129 b130 b131 b132 b133 b134 b135 b136 b137 b138 b139 b140 b141 b142 b143 b144 b145 b146 b147 b148 b149 b150 b151 b152 b153 b154 b155 b156 b157 b158 b159 b160 b161 b162 b163 : BitVec 8) : P.State :=
  let t1 : BitVec 64 := (HH.le64 [b0, b1, b2, b3, b4, b5, b6, b7])
  let t2 : BitVec 64 := (HH.le64 [b8, b9, b10, b11, b12, b13, b14, b15])
  let t3 : BitVec 64 := (HH.le64 [b16, b17, b18, b19, b20, b21, b22, b23])
  let t4 : BitVec 64 := (HH.le64 [b24, b25, b26, b27, b28, b29, b30, b31])
  let t5 : BitVec 64 := (HH.le64 [b32, b33, b34, b35, b36, b37, b38, b39])
  let t6 : BitVec 64 := (HH.le64 [b40, b41, b42, b43, b44, b45, b46, b47])
  let t7 : BitVec 64 := (HH.le64 [b48, b49, b50, b51, b52, b53, b54, b55])
  let t8 : BitVec 64 := (HH.le64 [b56, b57, b58, b59, b60, b61, b62, b63])
  let t9 : BitVec 64 := (HH.le64 [b64, b65, b66, b67, b68, b69, b70, b71])
  let t10 : BitVec 64 := (HH.le64 [b72, b73, b74, b75, b76, b77, b78, b79])
  let t11 : BitVec 64 := (HH.le64 [b80, b81, b82, b83, b84, b85, b86, b87])
  let t12 : BitVec 64 := (HH.le64 [b88, b89, b90, b91, b92, b93, b94, b95])
  let t13 : BitVec 64 := (HH.le64 [b96, b97, b98, b99, b100, b101, b102, b103])
  let t14 : BitVec 64 := (HH.le64 [b104, b105, b106, b107, b108, b109, b110, b111])
  let t15 : BitVec 64 := (HH.le64 [b112, b113, b114, b115, b116, b117, b118, b119])
  let t16 : BitVec 64 := (HH.le64 [b120, b121, b122, b123, b124, b125, b126, b127])
  ⟨⟨⟨t1, t2, t3, t4⟩, ⟨t5, t6, t7, t8⟩, ⟨t9, t10, t11, t12⟩, ⟨t13, t14, t15, t16⟩⟩, ⟨[b128, b129, b130, (0#8), (0#8), (0#8), (0#8), (0#8), (0#8), (0#8), (0#8), (0#8), (0#8), (0#8), (0#8), (0#8), (0#8), (0#8), (0#8), (0#8), (0#8), (0#8), (0#8), (0#8), (0#8), (0#8), (0#8), (0#8), (0#8), (0#8), (0#8), (0#8)], 3⟩⟩
def fromCheckpoint4 (b0 b1 b2 b3 b4 b5 b6 b7 b8 b9 b10 b11 b12 b13 b14 b15 b16 b17 b18 b19 b20 b21 b22 b23 b24 b25 b26 b27 b28 b29 b30 b31 b32 b33 b34 b35 b36 b37 b38 b39 b40 b41 b42 b43 b44 b45 b46 b47 b48 b49 b50 b51 b52 b53 b54 b55 b56 b57 b58 b59 b60 b61 b62 b63 b64 b65 b66 b67 b68 b69 b70 b71 b72 b73 b74 b75 b76 b77 b78 b79 b80 b81 b82 b83 b84 b85 b86 b87 b88 b89 b90 b91 b92 b93 b94 b95 b96 b97 b98 b99 b100 b101 b102 b103 b104 b105 b106 b107 b108 b109 b110 b111 b112 b113 b114 b115 b116 b117 b118 b119 b120 b121 b122 b123 b124 b125 b126 b127 b128 b129 b130 b131 b132 b133 b134 b135 b136 b137 b138 b139 b140 b141 b142 b143 b144 b145 b146 b147 b148 b149 b150 b151 b152 b153 b154 b155 b156 b157 b158 b159 b160 b161 b162 b163 : BitVec 8) : P.State :=
  let t1 : BitVec 64 := (HH.le64 [b0, b1, b2, b3, b4, b5, b6, b7])
  let t2 : BitVec 64 := (HH.le64 [b8, b9, b10, b11, b12, b13, b14, b15])
  let t3 : BitVec 64 := (HH.le64 [b16, b17, b18, b19, b20, b21, b22, b23])
  let t4 : BitVec 64 := (HH.le64 [b24, b25, b26, b27, b28, b29, b30, b31])
  let t5 : BitVec 64 := (HH.le64 [b32, b33, b34, b35, b36, b37, b38, b39])
  let t6 : BitVec 64 := (HH.le64 [b40, b41, b42, b43, b44, b45, b46, b47])
  let t7 : BitVec 64 := (HH.le64 [b48, b49, b50, b51, b52, b53, b54, b55])
  let t8 : BitVec 64 := (HH.le64 [b56, b57, b58, b59, b60, b61, b62, b63])
  let t9 : BitVec 64 := (HH.le64 [b64, b65, b66, b67, b68, b69, b70, b71])
  let t10 : BitVec 64 := (HH.le64 [b72, b73, b74, b75, b76, b77, b78, b79])
  let t11 : BitVec 64 := (HH.le64 [b80, b81, b82, b83, b84, b85, b86, b87])
  let t12 : BitVec 64 := (HH.le64 [b88, b89, b90, b91, b92, b93, b94, b95])
  let t13 : BitVec 64 := (HH.le64 [b96, b97, b98, b99, b100, b101, b102, b103])
  let t14 : BitVec 64 := (HH.le64 [b104, b105, b106, b107, b108, b109, b110, b111])
  let t15 : BitVec 64 := (HH.le64 [b112, b113, b114, b115, b116, b117, b118, b119])
  let t16 : BitVec 64 := (HH.le64 [b120, b121, b122, b123, b124, b125, b126, b127])
  ⟨⟨⟨t1, t2, t3, t4⟩, ⟨t5, t6, t7, t8⟩, ⟨t9, t10, t11, t12⟩, ⟨t13, t14, t15, t16⟩⟩, ⟨[b128, b129, b130, b131, (0#8), (0#8), (0#8), (0#8), (0#8), (0#8), (0#8), (0#8), (0#8), (0#8), (0#8), (0#8), (0#8), (0#8), (0#8), (0#8), (0#8), (0#8), (0#8), (0#8), (0#8), (0#8), (0#8), (0#8), (0#8), (0#8), (0#8), (0#8)], 4⟩⟩
def fromCheckpoint5 (b0 b1 b2 b3 b4 b5 b6 b7 b8 b9 b10 b11 b12 b13 b14 b15 b16 b17 b18 b19 b20 b21 b22 b23 b24 b25 b26 b27 b28 b29 b30 b31 b32 b33 b34 b35 b36 b37 b38 b39 b40 b41 b42 b43 b44 b45 b46 b47 b48 b49 b50 b51 b52 b53 b54 b55 b56 b57 b58 b59 b60 b61 b62 b63 b64 b65 b66 b67 b68 b69 b70 b71 b72 b73 b74 b75 b76 b77 b78 b79 b80 b81 b82 b83 b84 b85 b86 b87 b88 b89 b90 b91 b92 b93 b94 b95 b96 b97 b98 b99 b100 b101 b102 b103 b104 b105 b106 b107 b108 b109 b110 b111 b112 b113 b114 b115 b116 b117 b118 b119 b120 b121 b122 b123 b124 b125 b126 b127 b128 b129 b130 b131 b132 b133 b134 b135 b136 b137 b138 b139 b140 b141 b142 b143 b144 b145 b146 b147 b148 b149 b150 b151 b152 b153 b154 b155 b156 b157 b158 b159 b160 b161 b162 b163 : BitVec 8) : P.State :=
  let t1 : BitVec 64 := (HH.le64 [b0, b1, b2, b3, b4, b5, b6, b7])
  let t2 : BitVec 64 := (HH.le64 [b8, b9, b10, b11, b12, b13, b14, b15])
  let t3 : BitVec 64 := (HH.le64 [b16, b17, b18, b19, b20, b21, b22, b23])
  let t4 : BitVec 64 := (HH.le64 [b24, b25, b26, b27, b28, b29, b30, b31])
  let t5 : BitVec 64 := (HH.le64 [b32, b33, b34, b35, b36, b37, b38, b39])
  let t6 : BitVec 64 := (HH.le64 [b40, b41, b42, b43, b44, b45, b46, b47])
  let t7 : BitVec 64 := (HH.le64 [b48, b49, b50, b51, b52, b53, b54, b55])
  let t8 : BitVec 64 := (HH.le64 [b56, b57, b58, b59, b60, b61, b62, b63])
  let t9 : BitVec 64 := (HH.le64 [b64, b65, b66, b67, b68, b69, b70, b71])
  let t10 : BitVec 64 := (HH.le64 [b72, b73, b74, b75, b76, b77, b78, b79])
  let t11 : BitVec 64 := (HH.le64 [b80, b81, b82, b83, b84, b85, b86, b87])
  let t12 : BitVec 64 := (HH.le64 [b88, b89, b90, b91, b92, b93, b94, b95])
  let t13 : BitVec 64 := (HH.le64 [b96, b97, b98, b99, b100, b101, b102, b103])
  let t14 : BitVec 64 := (HH.le64 [b104, b105, b106, b107, b108, b109, b110, b111])
  let t15 : BitVec 64 := (HH.le64 [b112, b113, b114, b115, b116, b117, b118, b119])
  let t16 : BitVec 64 := (HH.le64 [b120, b121, b122, b123, b124, b125, b126, b127])
  ⟨⟨⟨t1, t2, t3, t4⟩, ⟨t5, t6, t7, t8⟩, ⟨t9, t10, t11, t12⟩, ⟨t13, t14, t15, t16⟩⟩, ⟨[b128, b129, b130, b131, b132, (0#8), (0#8), (0#8), (0#8), (0#8), (0#8), (0#8), (0#8), (0#8), (0#8), (0#8), (0#8), (0#8), (0#8), (0#8), (0#8), (0#8), (0#8), (0#8), (0#8), (0#8), (0#8), (0#8), (0#8), (0#8), (0#8), (0#8)], 5⟩⟩
def fromCheckpoint6 (b0 b1 b2 b3 b4 b5 b6 b7 b8 b9 b10 b11 b12 b13 b14 b15 b16 b17 b18 b19 b20 b21 b22 b23 b24 b25 b26 b27 b28 b29 b30 b31 b32 b33 b34 b35 b36 b37 b38 b39 b40 b41 b42 b43 b44 b45 b46 b47 b48 b49 b50 b51 b52 b53 b54 b55 b56 b57 b58 b59 b60 b61 b62 b63 b64 b65 b66 b67 b68 b69 b70 b71 b72 b73 b74 b75 b76 b77 b78 b79 b80 b81 b82 b83 b84 b85 b86 b87 b88 b89 b90 b91 b92 b93 b94 b95 b96 b97 b98 b99 b100 b101 b102 b103 b104 b105 b106 b107 b108 b109 b110 b111 b112 b113 b114 b115 b116 b117 b118 b119 b120 b121 b122 b123 b124 b125 b126 b127 b128 b129 b130 b131 b132 b133 b134 b135 b136 b137 b138 b139 b140 b141 b142 b143 b144 b145 b146 b147 b148 b149 b150 b151 b152 b153 b154 b155 b156 b157 b158 b159 b160 b161 b162 b163 : BitVec 8) : P.State :=
  let t1 : BitVec 64 := (HH.le64 [b0, b1, b2, b3, b4, b5, b6, b7])
  let t2 : BitVec 64 := (HH.le64 [b8, b9, b10, b11, b12, b13, b14, b15])
  let t3 : BitVec 64 := (HH.le64 [b16, b17, b18, b19, b20, b21, b22, b23])
  let t4 : BitVec 64 := (HH.le64 [b24, b25, b26, b27, b28, b29, b30, b31])
  let t5 : BitVec 64 := (HH.le64 [b32, b33, b34, b35, b36, b37, b38, b39])
  let t6 : BitVec 64 := (HH.le64 [b40, b41, b42, b43, b44, b45, b46, b47])
  let t7 : BitVec 64 := (HH.le64 [b48, b49, b50, b51, b52, b53, b54, b55])
  let t8 : BitVec 64 := (HH.le64 [b56, b57, b58, b59, b60, b61, b62, b63])
  let t9 : BitVec 64 := (HH.le64 [b64, b65, b66, b67, b68, b69, b70, b71])
  let t10 : BitVec 64 := (HH.le64 [b72, b73, b74, b75, b76, b77, b78, b79])
  let t11 : BitVec 64 := (HH.le64 [b80, b81, b82, b83, b84, b85, b86, b87])
  let t12 : BitVec 64 := (HH.le64 [b88, b89, b90, b91, b92, b93, b94, b95])
  let t13 : BitVec 64 := (HH.le64 [b96, b97, b98, b99, b100, b101, b102, b103])
  let t14 : BitVec 64 := (HH.le64 [b104, b105, b106, b107, b108, b109, b110, b111])
  let t15 : BitVec 64 := (HH.le64 [b112, b113, b114, b115, b116, b117, b118, b119])
  let t16 : BitVec 64 := (HH.le64 [b120, b121, b122, b123, b124, b125, b126, b127])
  ⟨⟨⟨t1, t2, t3, t4⟩, ⟨t5, t6, t7, t8⟩, ⟨t9, t10, t11, t12⟩, ⟨t13, t14, t15, t16⟩⟩, ⟨[b128, b129, b130, b131, b132, b133, (0#8), (0#8), (0#8), (0#8), (0#8), (0#8), (0#8), (0#8), (0#8), (0#8), (0#8), (0#8), (0#8), (0#8), (0#8), (0#8), (0#8), (0#8), (0#8), (0#8), (0#8), (0#8), (0#8), (0#8), (0#8), (0#8)], 6⟩⟩
def fromCheckpoint7 (b0 b1 b2 b3 b4 b5 b6 b7 b8 b9 b10 b11 b12 b13 b14 b15 b16 b17 b18 b19 b20 b21 b22 b23 b24 b25 b26 b27 b28 b29 b30 b31 b32 b33 b34 b35 b36 b37 b38 b39 b40 b41 b42 b43 b44 b45 b46 b47 b48 b49 b50 b51 b52 b53 b54 b55 b56 b57 b58 b59 b60 b61 b62 b63 b64 b65 b66 b67 b68 b69 b70 b71 b72 b73 b74 b75 b76 b77 b78 b79 b80 b81 b82 b83 b84 b85 b86 b87 b88 b89 b90 b91 b92 b93 b94 b95 b96 b97 b98 b99 b100 b101 b102 b103 b104 b105 b106 b107 b108 b109 b110 b111 b112 b113 b114 b115 b116 b117 b118 b119 b120 b121 b122 b123 b124 b125 b126 b127 b128 b129 b130 b131 b132 b133 b134 b135 b136 b137 b138 b139 b140 b141 b142 b143 b144 b145 b146 b147 b148 b149 b150 b151 b152 b153 b154 b155 b156 b157 b158 b159 b160 b161 b162 b163 : BitVec 8) : P.State :=
  let t1 : BitVec 64 := (HH.le64 [b0, b1, b2, b3, b4, b5, b6, b7])
  let t2 : BitVec 64 := (HH.le64 [b8, b9, b10, b11, b12, b13, b14, b15])
  let t3 : BitVec 64 := (HH.le64 [b16, b17, b18, b19, b20, b21, b22, b23])
  let t4 : BitVec 64 := (HH.le64 [b24, b25, b26, b27, b28, b29, b30, b31])
  let t5 : BitVec 64 := (HH.le64 [b32, b33, b34, b35, b36, b37, b38, b39])
  let t6 : BitVec 64 := (HH.le64 [b40, b41, b42, b43, b44, b45, b46, b47])
  let t7 : BitVec 64 := (HH.le64 [b48, b49, b50, b51, b52, b53, b54, b55])
  let t8 : BitVec 64 := (HH.le64 [b56, b57, b58, b59, b60, b61, b62, b63])
  let t9 : BitVec 64 := (HH.le64 [b64, b65, b66, b67, b68, b69, b70, b71])
  let t10 : BitVec 64 := (HH.le64 [b72, b73, b74, b75, b76, b77, b78, b79])
  let t11 : BitVec 64 := (HH.le64 [b80, b81, b82, b83, b84, b85, b86, b87])
  let t12 : BitVec 64 := (HH.le64 [b88, b89, b90, b91, b92, b93, b94, b95])
  let t13 : BitVec 64 := (HH.le64 [b96, b97, b98, b99, b100, b101, b102, b103])
  let t14 : BitVec 64 := (HH.le64 [b104, b105, b106, b107, b108, b109, b110, b111])
  let t15 : BitVec 64 := (HH.le64 [b112, b113, b114, b115, b116, b117, b118, b119])
  let t16 : BitVec 64 := (HH.le64 [b120, b121, b122, b123, b124, b125, b126, b127])
  ⟨⟨⟨t1, t2, t3, t4⟩, ⟨t5, t6, t7, t8⟩, ⟨t9, t10, t11, t12⟩, ⟨t13, t14, t15, t16⟩⟩, ⟨[b128, b129, b130, b131, b132, b133, b134, (0#8), (0#8), (0#8), (0#8), (0#8), (0#8), (0#8), (0#8), (0#8), (0#8), (0#8), (0#8), (0#8), (0#8), (0#8), (0#8), (0#8), (0#8), (0#8), (0#8), (0#8), (0#8), (0#8), (0#8), (0#8)], 7⟩⟩
def fromCheckpoint8 (b0 b1 b2 b3 b4 b5 b6 b7 b8 b9 b10 b11 b12 b13 b14 b15 b16 b17 b18 b19 b20 b21 b22 b23 b24 b25 b26 b27 b28 b29 b30 b31 b32 b33 b34 b35 b36 b37 b38 b39 b40 b41 b42 b43 b44 b45 b46 b47 b48 b49 b50 b51 b52 b53 b54 b55 b56 b57 b58 b59 b60 b61 b62 b63 b64 b65 b66 b67 b68 b69 b70 b71 b72 b73 b74 b75 b76 b77 b78 b79 b80 b81 b82 b83 b84 b85 b86 b87 b88 b89 b90 b91 b92 b93 b94 b95 b96 b97 b98 b99 b100 b101 b102 b103 b104 b105 b106 b107 b108 b109 b110 b111 b112 b113 b114 b115 b116 b117 b118 b119 b120 b121 b122 b123 b124 b125 b126 b127 b128 b129 b130 b131 b132 b133 b134 b135 b136 b137 b138 b139 b140 b141 b142 b143 b144 b145 b146 b147 b148 b149 b150 b151 b152 b153 b154 b155 b156 b157 b158 b159 b160 b161 b162 b163 : BitVec 8) : P.State :=
  let t1 : BitVec 64 := (HH.le64 [b0, b1, b2, b3, b4, b5, b6, b7])
  let t2 : BitVec 64 := (HH.le64 [b8, b9, b10, b11, b12, b13, b14, b15])
  let t3 : BitVec 64 := (HH.le64 [b16, b17, b18, b19, b20, b21, b22, b23])
  let t4 : BitVec 64 := (HH.le64 [b24, b25, b26, b27, b28, b29, b30, b31])
  let t5 : BitVec 64 := (HH.le64 [b32, b33, b34, b35, b36, b37, b38, b39])
  let t6 : BitVec 64 := (HH.le64 [b40, b41, b42, b43, b44, b45, b46, b47])
  let t7 : BitVec 64 := (HH.le64 [b48, b49, b50, b51, b52, b53, b54, b55])
  let t8 : BitVec 64 := (HH.le64 [b56, b57, b58, b59, b60, b61, b62, b63])
  let t9 : BitVec 64 := (HH.le64 [b64, b65, b66, b67, b68, b69, b70, b71])
  let t10 : BitVec 64 := (HH.le64 [b72, b73, b74, b75, b76, b77, b78, b79])
  let t11 : BitVec 64 := (HH.le64 [b80, b81, b82, b83, b84, b85, b86, b87])
  let t12 : BitVec 64 := (HH.le64 [b88, b89, b90, b91, b92, b93, b94, b95])
  let t13 : BitVec 64 := (HH.le64 [b96, b97, b98, b99, b100, b101, b102, b103])
  let t14 : BitVec 64 := (HH.le64 [b104, b105, b106, b107, b108, b109, b110, b111])
  let t15 : BitVec 64 := (HH.le64 [b112, b113, b114, b115, b116, b117, b118, b119])
  let t16 : BitVec 64 := (HH.le64 [b120, b121, b122, b123, b124, b125, b126, b127])
  ⟨⟨⟨t1, t2, t3, t4⟩, ⟨t5, t6, t7, t8⟩, ⟨t9, t10, t11, t12⟩, ⟨t13, t14, t15, t16⟩⟩, ⟨[b128, b129, b130, b131, b132, b133, b134, b135, (0#8), (0#8), (0#8), (0#8), (0#8), (0#8), (0#8), (0#8), (0#8), (0#8), (0#8), (0#8), (0#8), (0#8), (0#8), (0#8), (0#8), (0#8), (0#8), (0#8), (0#8), (0#8), (0#8), (0#8)], 8⟩⟩
def fromCheckpoint9 (b0 b1 b2 b3 b4 b5 b6 b7 b8 b9 b10 b11 b12 b13 b14 b15 b16 b17 b18 b19 b20 b21 b22 b23 b24 b25 b26 b27 b28 b29 b30 b31 b32 b33 b34 b35 b36 b37 b38 b39 b40 b41 b42 b43 b44 b45 b46 b47 b48 b49 b50 b51 b52 b53 b54 b55 b56 b57 b58 b59 b60 b61 b62 b63 b64 b65 b66 b67 b68 b69 b70 b71 b72 b73 b74 b75 b76 b77 b78 b79 b80 b81 b82 b83 b84 b85 b86 b87 b88 b89 b90 b91 b92 b93 b94 b95 b96 b97 b98 b99 b100 b101 b102 b103 b104 b105 b106 b107 b108 b109 b110 b111 b112 b113 b114 b115 b116 b117 b118 b119 b120 b121 b122 b123 b124 b125 b126 b127 b128 b129 b130 b131 b132 b133 b134 b135 b136 b137 b138 b139 b140 b141 b142 b143 b144 b145 b146 b147 b148 b149 b150 b151 b152 b153 b154 b155 b156 b157 b158 b159 b160 b161 b162 b163 : BitVec 8) : P.State :=
  let t1 : BitVec 64 := (HH.le64 [b0, b1, b2, b3, b4, b5, b6, b7])
  let t2 : BitVec 64 := (HH.le64 [b8, b9, b10, b11, b12, b13, b14, b15])
  let t3 : BitVec 64 := (HH.le64 [b16, b17, b18, b19, b20, b21, b22, b23])
  let t4 : BitVec 64 := (HH.le64 [b24, b25, b26, b27, b28, b29, b30, b31])
  let t5 : BitVec 64 := (HH.le64 [b32, b33, b34, b35, b36, b37, b38, b39])
  let t6 : BitVec 64 := (HH.le64 [b40, b41, b42, b43, b44, b45, b46, b47])
  let t7 : BitVec 64 := (HH.le64 [b48, b49, b50, b51, b52, b53, b54, b55])
  let t8 : BitVec 64 := (HH.le64 [b56, b57, b58, b59, b60, b61, b62, b63])
  let t9 : BitVec 64 := (HH.le64 [b64, b65, b66, b67, b68, b69, b70, b71])
  let t10 : BitVec 64 := (HH.le64 [b72, b73, b74, b75, b76, b77, b78, b79])
  let t11 : BitVec 64 := (HH.le64 [b80, b81, b82, b83, b84, b85, b86, b87])
  let t12 : BitVec 64 := (HH.le64 [b88, b89, b90, b91, b92, b93, b94, b95])
  let t13 : BitVec 64 := (HH.le64 [b96, b97, b98, b99, b100, b101, b102, b103])
  let t14 : BitVec 64 := (HH.le64 [b104, b105, b106, b107, b108, b109, b110, b111])
  let t15 : BitVec 64 := (HH.le64 [b112, b113, b114, b115, b116, b117, b118, b119])
  let t16 : BitVec 64 := (HH.le64 [b120, b121, b122, b123, b124, b125, b126, b127])
  ⟨⟨⟨t1, t2, t3, t4⟩, ⟨t5, t6, t7, t8⟩, ⟨t9, t10, t11, t12⟩, ⟨t13, t14, t15, t16⟩⟩, ⟨[b128, b129, b130, b131, b132, b133, b134, b135, b136, (0#8), (0#8), (0#8), (0#8), (0#8), (0#8), (0#8), (0#8), (0#8), (0#8), (0#8), (0#8), (0#8), (0#8), (0#8), (0#8), (0#8), (0#8), (0#8), (0#8), (0#8), (0#8), (0#8)], 9⟩⟩
def fromCheckpoint10 (b0 b1 b2 b3 b4 b5 b6 b7 b8 b9 b10 b11 b12 b13 b14 b15 b16 b17 b18 b19 b20 b21 b22 b23 b24 b25 b26 b27 b28 b29 b30 b31 b32 b33 b34 b35 b36 b37 b38 b39 b40 b41 b42 b43 b44 b45 b46 b47 b48 b49 b50 b51 b52 b53 b54 b55 b56 b57 b58 b59 b60 b61 b62 b63 b64 b65 b66 b67 b68 b69 b70 b71 b72 b73 b74 b75 b76 b77 b78 b79 b80 b81 b82 b83 b84 b85 b86 b87 b88 b89 b90 b91 b92 b93 b94 b95 b96 b97 b98 b99 b100 b101 b102 b103 b104 b105 b106 b107 b108 b109 b110 b111 b112 b113 b114 b115 b116 b117 b118 b119 b120 b121 b122 b123 b124 b125 b126 b127 b128 b129 b130 b131 b132 b133 b134 b135 b136 b137 b138 b139 b140 b141 b142 b143 b144 b145 b146 b147 b148 b149 b150 b151 b152 b153 b154 b155 b156 b157 b158 b159 b160 b161 b162 b163 : BitVec 8) : P.State :=
  let t1 : BitVec 64 := (HH.le64 [b0, b1, b2, b3, b4, b5, b6, b7])
  let t2 : BitVec 64 := (HH.le64 [b8, b9, b10, b11, b12, b13, b14, b15])
  let t3 : BitVec 64 := (HH.le64 [b16, b17, b18, b19, b20, b21, b22, b23])
  let t4 : BitVec 64 := (HH.le64 [b24, b25, b26, b27, b28, b29, b30, b31])
  let t5 : BitVec 64 := (HH.le64 [b32, b33, b34, b35, b36, b37, b38, b39])
  let t6 : BitVec 64 := (HH.le64 [b40, b41, b42, b43, b44, b45, b46, b47])
  let t7 : BitVec 64 := (HH.le64 [b48, b49, b50, b51, b52, b53, b54, b55])
  let t8 : BitVec 64 := (HH.le64 [b56, b57, b58, b59, b60, b61, b62, b63])
  let t9 : BitVec 64 := (HH.le64 [b64, b65, b66, b67, b68, b69, b70, b71])
  let t10 : BitVec 64 := (HH.le64 [b72, b73, b74, b75, b76, b77, b78, b79])
  let t11 : BitVec 64 := (HH.le64 [b80, b81, b82, b83, b84, b85, b86, b87])
  let t12 : BitVec 64 := (HH.le64 [b88, b89, b90, b91, b92, b93, b94, b95])
  let t13 : BitVec 64 := (HH.le64 [b96, b97, b98, b99, b100, b101, b102, b103])
  let t14 : BitVec 64 := (HH.le64 [b104, b105, b106, b107, b108, b109, b110, b111])
  let t15 : BitVec 64 := (HH.le64 [b112, b113, b114, b115, b116, b117, b118, b119])
  let t16 : BitVec 64 := (HH.le64 [b120, b121, b122, b123, b124, b125, b126, b127])
  ⟨⟨⟨t1, t2, t3, t4⟩, ⟨t5, t6, t7, t8⟩, ⟨t9, t10, t11, t12⟩, ⟨t13, t14, t15, t16⟩⟩, ⟨[b128, b129, b130, b131, b132, b133, b134, b135, b136, b137, (0#8), (0#8), (0#8), (0#8), (0#8), (0#8), (0#8), (0#8), (0#8), (0#8), (0#8), (0#8), (0#8), (0#8), (0#8), (0#8), (0#8), (0#8), (0#8), (0#8), (0#8), (0#8)], 10⟩⟩
def fromCheckpoint11 (b0 b1 b2 b3 b4 b5 b6 b7 b8 b9 b10 b11 b12 b13 b14 b15 b16 b17 b18 b19 b20 b21 b22 b23 b24 b25 b26 b27 b28 b29 b30 b31 b32 b33 b34 b35 b36 b37 b38 b39 b40 b41 b42 b43 b44 b45 b46 b47 b48 b49 b50 b51 b52 b53 b54 b55 b56 b57 b58 b59 b60 b61 b62 b63 b64 b65 b66 b67 b68 b69 b70 b71 b72 b73 b74 b75 b76 b77 b78 b79 b80 b81 b82 b83 b84 b85 b86 b87 b88 b89 b90 b91 b92 b93 b94 b95 b96 b97 b98 b99 b100 b101 b102 b103 b104 b105 b106 b107 b108 b109 b110 b111 b112 b113 b114 b115 b116 b117 b118 b119 b120 b121 b122 b123 b124 b125 b126 b127 b128 b129 b130 b131 b132 b133 b134 b135 b136 b137 b138 b139 b140 b141 b142 b143 b144 b145 b146 b147 b148 b149 b150 b151 b152 b153 b154 b155 b156 b157 b158 b159 b160 b161 b162 b163 : BitVec 8) : P.State :=
  let t1 : BitVec 64 := (HH.le64 [b0, b1, b2, b3, b4, b5, b6, b7])
  let t2 : BitVec 64 := (HH.le64 [b8, b9, b10, b11, b12, b13, b14, b15])
  let t3 : BitVec 64 := (HH.le64 [b16, b17, b18, b19, b20, b21, b22, b23])
  let t4 : BitVec 64 := (HH.le64 [b24, b25, b26, b27, b28, b29, b30, b31])
  let t5 : BitVec 64 := (HH.le64 [b32, b33, b34, b35, b36, b37, b38, b39])
  let t6 : BitVec 64 := (HH.le64 [b40, b41, b42, b43, b44, b45, b46, b47])
  let t7 : BitVec 64 := (HH.le64 [b48, b49, b50, b51, b52, b53, b54, b55])
  let t8 : BitVec 64 := (HH.le64 [b56, b57, b58, b59, b60, b61, b62, b63])
  let t9 : BitVec 64 := (HH.le64 [b64, b65, b66, b67, b68, b69, b70, b71])
  let t10 : BitVec 64 := (HH.le64 [b72, b73, b74, b75, b76, b77, b78, b79])
  let t11 : BitVec 64 := (HH.le64 [b80, b81, b82, b83, b84, b85, b86, b87])
  let t12 : BitVec 64 := (HH.le64 [b88, b89, b90, b91, b92, b93, b94, b95])
  let t13 : BitVec 64 := (HH.le64 [b96, b97, b98, b99, b100, b101, b102, b103])
  let t14 : BitVec 64 := (HH.le64 [b104, b105, b106, b107, b108, b109, b110, b111])
  let t15 : BitVec 64 := (HH.le64 [b112, b113, b114, b115, b116, b117, b118, b119])
  let t16 : BitVec 64 := (HH.le64 [b120, b121, b122, b123, b124, b125, b126, b127])
  ⟨⟨⟨t1, t2, t3, t4⟩, ⟨t5, t6, t7, t8⟩, ⟨t9, t10, t11, t12⟩, ⟨t13, t14, t15, t16⟩⟩, ⟨[b128, b129, b130, b131, b132, b133, b134, b135, b136, b137, b138, (0#8), (0#8), (0#8), (0#8), (0#8), (0#8), (0#8), (0#8), (0#8), (0#8), (0#8), (0#8), (0#8), (0#8), (0#8), (0#8), (0#8), (0#8), (0#8), (0#8), (0#8)], 11⟩⟩
def fromCheckpoint12 (b0 b1 b2 b3 b4 b5 b6 b7 b8 b9 b10 b11 b12 b13 b14 b15 b16 b17 b18 b19 b20 b21 b22 b23 b24 b25 b26 b27 b28 b29 b30 b31 b32 b33 b34 b35 b36 b37 b38 b39 b40 b41 b42 b43 b44 b45 b46 b47 b48 b49 b50 b51 b52 b53 b54 b55 b56 b57 b58 b59 b60 b61 b62 b63 b64 b65 b66 b67 b68 b69 b70 b71 b72 b73 b74 b75 b76 b77 b78 b79 b80 b81 b82 b83 b84 b85 b86 b87 b88 b89 b90 b91 b92 b93 b94 b95 b96 b97 b98 b99 b100 b101 b102 b103 b104 b105 b106 b107 b108 b109 b110 b111 b112 b113 b114 b115 b116 b117 b118 b119 b120 b121 b122 b123 b124 b125 b126 b127 b128 b129 b130 b131 b132 b133 b134 b135 b136 b137 b138 b139 b140 b141 b142 b143 b144 b145 b146 b147 b148 b149 b150 b151 b152 b153 b154 b155 b156 b157 b158 b159 b160 b161 b162 b163 : BitVec 8) : P.State :=
  let t1 : BitVec 64 := (HH.le64 [b0, b1, b2, b3, b4, b5, b6, b7])
  let t2 : BitVec 64 := (HH.le64 [b8, b9, b10, b11, b12, b13, b14, b15])
  let t3 : BitVec 64 := (HH.le64 [b16, b17, b18, b19, b20, b21, b22, b23])
  let t4 : BitVec 64 := (HH.le64 [b24, b25, b26, b27, b28, b29, b30, b31])
  let t5 : BitVec 64 := (HH.le64 [b32, b33, b34, b35, b36, b37, b38, b39])
  let t6 : BitVec 64 := (HH.le64 [b40, b41, b42, b43, b44, b45, b46, b47])
  let t7 : BitVec 64 := (HH.le64 [b48, b49, b50, b51, b52, b53, b54, b55])
  let t8 : BitVec 64 := (HH.le64 [b56, b57, b58, b59, b60, b61, b62, b63])
  let t9 : BitVec 64 := (HH.le64 [b64, b65, b66, b67, b68, b69, b70, b71])
  let t10 : BitVec 64 := (HH.le64 [b72, b73, b74, b75, b76, b77, b78, b79])
  let t11 : BitVec 64 := (HH.le64 [b80, b81, b82, b83, b84, b85, b86, b87])
  let t12 : BitVec 64 := (HH.le64 [b88, b89, b90, b91, b92, b93, b94, b95])
  let t13 : BitVec 64 := (HH.le64 [b96, b97, b98, b99, b100, b101, b102, b103])
  let t14 : BitVec 64 := (HH.le64 [b104, b105, b106, b107, b108, b109, b110, b111])
  let t15 : BitVec 64 := (HH.le64 [b112, b113, b114, b115, b116, b117, b118, b119])
  let t16 : BitVec 64 := (HH.le64 [b120, b121, b122, b123, b124, b125, b126, b127])
  ⟨⟨⟨t1, t2, t3, t4⟩, ⟨t5, t6, t7, t8⟩, ⟨t9, t10, t11, t12⟩, ⟨t13, t14, t15, t16⟩⟩, ⟨[b128, b129, b130, b131, b132, b133, b134, b135, b136, b137, b138, b139, (0#8), (0#8), (0#8), (0#8), (0#8), (0#8), (0#8), (0#8), (0#8), (0#8), (0#8), (0#8), (0#8), (0#8), (0#8), (0#8), (0#8), (0#8), (0#8), (0#8)], 12⟩⟩
def fromCheckpoint13 (b0 b1 b2 b3 b4 b5 b6 b7 b8 b9 b10 b11 b12 b13 b14 b15 b16 b17 b18 b19 b20 b21 b22 b23 b24 b25 b26 b27 b28 b29 b30 b31 b32 b33 b34 b35 b36 b37 b38 b39 b40 b41 b42 b43 b44 b45 b46 b47 b48 b49 b50 b51 b52 b53 b54 b55 b56 b57 b58 b59 b60 b61 b62 b63 b64 b65 b66 b67 b68 b69 b70 b71 b72 b73 b74 b75 b76 b77 b78 b79 b80 b81 b82 b83 b84 b85 b86 b87 b88 b89 b90 b91 b92 b93 b94 b95 b96 b97 b98 b99 b100 b101 b102 b103 b104 b105 b106 b107 b108 b109 b110 b111 b112 b113 b114 b115 b116 b117 b118 b119 b120 b121 b122 b123 b124 b125 b126 b127 b128 b129 b130 b131 b132 b133 b134 b135 b136 b137 b138 b139 b140 b141 b142 b143 b144 b145 b146 b147 b148 b149 b150 b151 b152 b153 b154 b155 b156 b157 b158 b159 b160 b161 b162 b163 : BitVec 8) : P.State :=
  let t1 : BitVec 64 := (HH.le64 [b0, b1, b2, b3, b4, b5, b6, b7])
  let t2 : BitVec 64 := (HH.le64 [b8, b9, b10, b11, b12, b13, b14, b15])
  let t3 : BitVec 64 := (HH.le64 [b16, b17, b18, b19, b20, b21, b22, b23])
  let t4 : BitVec 64 := (HH.le64 [b24, b25, b26, b27, b28, b29, b30, b31])
  let t5 : BitVec 64 := (HH.le64 [b32, b33, b34, b35, b36, b37, b38, b39])
  let t6 : BitVec 64 := (HH.le64 [b40, b41, b42, b43, b44, b45, b46, b47])
  let t7 : BitVec 64 := (HH.le64 [b48, b49, b50, b51, b52, b53, b54, b55])
  let t8 : BitVec 64 := (HH.le64 [b56, b57, b58, b59, b60, b61, b62, b63])
  let t9 : BitVec 64 := (HH.le64 [b64, b65, b66, b67, b68, b69, b70, b71])
  let t10 : BitVec 64 := (HH.le64 [b72, b73, b74, b75, b76, b77, b78, b79])
  let t11 : BitVec 64 := (HH.le64 [b80, b81, b82, b83, b84, b85, b86, b87])
  let t12 : BitVec 64 := (HH.le64 [b88, b89, b90, b91, b92, b93, b94, b95])
  let t13 : BitVec 64 := (HH.le64 [b96, b97, b98, b99, b100, b101, b102, b103])
  let t14 : BitVec 64 := (HH.le64 [b104, b105, b106, b107, b108, b109, b110, b111])
  let t15 : BitVec 64 := (HH.le64 [b112, b113, b114, b115, b116, b117, b118, b119])
  let t16 : BitVec 64 := (HH.le64 [b120, b121, b122, b123, b124, b125, b126, b127])
  ⟨⟨⟨t1, t2, t3, t4⟩, ⟨t5, t6, t7, t8⟩, ⟨t9, t10, t11, t12⟩, ⟨t13, t14, t15, t16⟩⟩, ⟨[b128, b129, b130, b131, b132, b133, b134, b135, b136, b137, b138, b139, b140, (0#8), (0#8), (0#8), (0#8), (0#8), (0#8), (0#8), (0#8), (0#8), (0#8), (0#8), (0#8), (0#8), (0#8), (0#8), (0#8), (0#8), (0#8), (0#8)], 13⟩⟩
def fromCheckpoint14 (b0 b1 b2 b3 b4 b5 b6 b7 b8 b9 b10 b11 b12 b13 b14 b15 b16 b17 b18 b19 b20 b21 b22 b23 b24 b25 b26 b27 b28 b29 b30 b31 b32 b33 b34 b35 b36 b37 b38 b39 b40 b41 b42 b43 b44 b45 b46 b47 b48 b49 b50 b51 b52 b53 b54 b55 b56 b57 b58 b59 b60 b61 b62 b63 b64 b65 b66 b67 b68 b69 b70 b71 b72 b73 b74 b75 b76 b77 b78 b79 b80 b81 b82 b83 b84 b85 b86 b87 b88 b89 b90 b91 b92 b93 b94 b95 b96 b97 b98 b99 b100 b101 b102 b103 b104 b105 b106 b107 b108 b109 b110 b111 b112 b113 b114 b115 b116 b117 b118 b119 b120 b121 b122 b123 b124 b125 b126 b127 b128 b129 b130 b131 b132 b133 b134 b135 b136 b137 b138 b139 b140 b141 b142 b143 b144 b145 b146 b147 b148 b149 b150 b151 b152 b153 b154 b155 b156 b157 b158 b159 b160 b161 b162 b163 : BitVec 8) : P.State :=
  let t1 : BitVec 64 := (HH.le64 [b0, b1, b2, b3, b4, b5, b6, b7])
  let t2 : BitVec 64 := (HH.le64 [b8, b9, b10, b11, b12, b13, b14, b15])
  let t3 : BitVec 64 := (HH.le64 [b16, b17, b18, b19, b20, b21, b22, b23])
  let t4 : BitVec 64 := (HH.le64 [b24, b25, b26, b27, b28, b29, b30, b31])
  let t5 : BitVec 64 := (HH.le64 [b32, b33, b34, b35, b36, b37, b38, b39])
  let t6 : BitVec 64 := (HH.le64 [b40, b41, b42, b43, b44, b45, b46, b47])
  let t7 : BitVec 64 := (HH.le64 [b48, b49, b50, b51, b52, b53, b54, b55])
  let t8 : BitVec 64 := (HH.le64 [b56, b57, b58, b59, b60, b61, b62, b63])
  let t9 : BitVec 64 := (HH.le64 [b64, b65, b66, b67, b68, b69, b70, b71])
  let t10 : BitVec 64 := (HH.le64 [b72, b73, b74, b75, b76, b77, b78, b79])
  let t11 : BitVec 64 := (HH.le64 [b80, b81, b82, b83, b84, b85, b86, b87])
  let t12 : BitVec 64 := (HH.le64 [b88, b89, b90, b91, b92, b93, b94, b95])
  let t13 : BitVec 64 := (HH.le64 [b96, b97, b98, b99, b100, b101, b102, b103])
  let t14 : BitVec 64 := (HH.le64 [b104, b105, b106, b107, b108, b109, b110, b111])
  let t15 : BitVec 64 := (HH.le64 [b112, b113, b114, b115, b116, b117, b118, b119])
  let t16 : BitVec 64 := (HH.le64 [b120, b121, b122, b123, b124, b125, b126, b127])
  ⟨⟨⟨t1, t2, t3, t4⟩, ⟨t5, t6, t7, t8⟩, ⟨t9, t10, t11, t12⟩, ⟨t13, t14, t15, t16⟩⟩, ⟨[b128, b129, b130, b131, b132, b133, b134, b135, b136, b137, b138, b139, b140, b141, (0#8), (0#8), (0#8), (0#8), (0#8), (0#8), (0#8), (0#8), (0#8), (0#8), (0#8), (0#8), (0#8), (0#8), (0#8), (0#8), (0#8), (0#8)], 14⟩⟩
def fromCheckpoint15 (b0 b1 b2 b3 b4 b5 b6 b7 b8 b9 b10 b11 b12 b13 b14 b15 b16 b17 b18 b19 b20 b21 b22 b23 b24 b25 b26 b27 b28 b29 b30 b31 b32 b33 b34 b35 b36 b37 b38 b39 b40 b41 b42 b43 b44 b45 b46 b47 b48 b49 b50 b51 b52 b53 b54 b55 b56 b57 b58 b59 b60 b61 b62 b63 b64 b65 b66 b67 b68 b69 b70 b71 b72 b73 b74 b75 b76 b77 b78 b79 b80 b81 b82 b83 b84 b85 b86 b87 b88 b89 b90 b91 b92 b93 b94 b95 b96 b97 b98 b99 b100 b101 b102 b103 b104 b105 b106 b107 b108 b109 b110 b111 b112 b113 b114 b115 b116 b117 b118 b119 b120 b121 b122 b123 b124 b125 b126 b127 b128 b129 b130 b131 b132 b133 b134 b135 b136 b137 b138 b139 b140 b141 b142 b143 b144 b145 b146 b147 b148 b149 b150 b151 b152 b153 b154 b155 b156 b157 b158 b159 b160 b161 b162 b163 : BitVec 8) : P.State :=
  let t1 : BitVec 64 := (HH.le64 [b0, b1, b2, b3, b4, b5, b6, b7])
  let t2 : BitVec 64 := (HH.le64 [b8, b9, b10, b11, b12, b13, b14, b15])
  let t3 : BitVec 64 := (HH.le64 [b16, b17, b18, b19, b20, b21, b22, b23])
  let t4 : BitVec 64 := (HH.le64 [b24, b25, b26, b27, b28, b29, b30, b31])
  let t5 : BitVec 64 := (HH.le64 [b32, b33, b34, b35, b36, b37, b38, b39])
  let t6 : BitVec 64 := (HH.le64 [b40, b41, b42, b43, b44, b45, b46, b47])
  let t7 : BitVec 64 := (HH.le64 [b48, b49, b50, b51, b52, b53, b54, b55])
  let t8 : BitVec 64 := (HH.le64 [b56, b57, b58, b59, b60, b61, b62, b63])
  let t9 : BitVec 64 := (HH.le64 [b64, b65, b66, b67, b68, b69, b70, b71])
  let t10 : BitVec 64 := (HH.le64 [b72, b73, b74, b75, b76, b77, b78, b79])
  let t11 : BitVec 64 := (HH.le64 [b80, b81, b82, b83, b84, b85, b86, b87])
  let t12 : BitVec 64 := (HH.le64 [b88, b89, b90, b91, b92, b93, b94, b95])
  let t13 : BitVec 64 := (HH.le64 [b96, b97, b98, b99, b100, b101, b102, b103])
  let t14 : BitVec 64 := (HH.le64 [b104, b105, b106, b107, b108, b109, b110, b111])
  let t15 : BitVec 64 := (HH.le64 [b112, b113, b114, b115, b116, b117, b118, b119])
  let t16 : BitVec 64 := (HH.le64 [b120, b121, b122, b123, b124, b125, b126, b127])
  ⟨⟨⟨t1, t2, t3, t4⟩, ⟨t5, t6, t7, t8⟩, ⟨t9, t10, t11, t12⟩, ⟨t13, t14, t15, t16⟩⟩, ⟨[b128, b129, b130, b131, b132, b133, b134, b135, b136, b137, b138, b139, b140, b141, b142, (0#8), (0#8), (0#8), (0#8), (0#8), (0#8), (0#8), (0#8), (0#8), (0#8), (0#8), (0#8), (0#8), (0#8), (0#8), (0#8), (0#8)], 15⟩⟩
def fromCheckpoint16 (b0 b1 b2 b3 b4 b5 b6 b7 b8 b9 b10 b11 b12 b13 b14 b15 b16 b17 b18 b19 b20 b21 b22 b23 b24 b25 b26 b27 b28 b29 b30 b31 b32 b33 b34 b35 b36 b37 b38 b39 b40 b41 b42 b43 b44 b45 b46 b47 b48 b49 b50 b51 b52 b53 b54 b55 b56 b57 b58 b59 b60 b61 b62 b63 b64 b65 b66 b67 b68 b69 b70 b71 b72 b73 b74 b75 b76 b77 b78 b79 b80 b81 b82 b83 b84 b85 b86 b87 b88 b89 b90 b91 b92 b93 b94 b95 b96 b97 b98 b99 b100 b101 b102 b103 b104 b105 b106 b107 b108 b109 b110 b111 b112 b113 b114 b115 b116 b117 b118 b119 b120 b121 b122 b123 b124 b125 b126 b127 b128 b129 b130 b131 b132 b133 b134 b135 b136 b137 b138 b139 b140 b141 b142 b143 b144 b145 b146 b147 b148 b149 b150 b151 b152 b153 b154 b155 b156 b157 b158 b159 b160 b161 b162 b163 : BitVec 8) : P.State :=
  let t1 : BitVec 64 := (HH.le64 [b0, b1, b2, b3, b4, b5, b6, b7])
  let t2 : BitVec 64 := (HH.le64 [b8, b9, b10, b11, b12, b13, b14, b15])
  let t3 : BitVec 64 := (HH.le64 [b16, b17, b18, b19, b20, b21, b22, b23])
  let t4 : BitVec 64 := (HH.le64 [b24, b25, b26, b27, b28, b29, b30, b31])
  let t5 : BitVec 64 := (HH.le64 [b32, b33, b34, b35, b36, b37, b38, b39])
  let t6 : BitVec 64 := (HH.le64 [b40, b41, b42, b43, b44, b45, b46, b47])
  let t7 : BitVec 64 := (HH.le64 [b48, b49, b50, b51, b52, b53, b54, b55])
  let t8 : BitVec 64 := (HH.le64 [b56, b57, b58, b59, b60, b61, b62, b63])
  let t9 : BitVec 64 := (HH.le64 [b64, b65, b66, b67, b68, b69, b70, b71])
  let t10 : BitVec 64 := (HH.le64 [b72, b73, b74, b75, b76, b77, b78, b79])
  let t11 : BitVec 64 := (HH.le64 [b80, b81, b82, b83, b84, b85, b86, b87])
  let t12 : BitVec 64 := (HH.le64 [b88, b89, b90, b91, b92, b93, b94, b95])
  let t13 : BitVec 64 := (HH.le64 [b96, b97, b98, b99, b100, b101, b102, b103])
  let t14 : BitVec 64 := (HH.le64 [b104, b105, b106, b107, b108, b109, b110, b111])
  let t15 : BitVec 64 := (HH.le64 [b112, b113, b114, b115, b116, b117, b118, b119])
  let t16 : BitVec 64 := (HH.le64 [b120, b121, b122, b123, b124, b125, b126, b127])
  ⟨⟨⟨t1, t2, t3, t4⟩, ⟨t5, t6, t7, t8⟩, ⟨t9, t10, t11, t12⟩, ⟨t13, t14, t15, t16⟩⟩, ⟨[b128, b129, b130, b131, b132, b133, b134, b135, b136, b137, b138, b139, b140, b141, b142, b143, (0#8), (0#8), (0#8), (0#8), (0#8), (0#8), (0#8), (0#8), (0#8), (0#8), (0#8), (0#8), (0#8), (0#8), (0#8), (0#8)], 16⟩⟩
def fromCheckpoint17 (b0 b1 b2 b3 b4 b5 b6 b7 b8 b9 b10 b11 b12 b13 b14 b15 b16 b17 b18 b19 b20 b21 b22 b23 b24 b25 b26 b27 b28 b29 b30 b31 b32 b33 b34 b35 b36 b37 b38 b39 b40 b41 b42 b43 b44 b45 b46 b47 b48 b49 b50 b51 b52 b53 b54 b55 b56 b57 b58 b59 b60 b61 b62 b63 b64 b65 b66 b67 b68 b69 b70 b71 b72 b73 b74 b75 b76 b77 b78 b79 b80 b81 b82 b83 b84 b85 b86 b87 b88 b89 b90 b91 b92 b93 b94 b95 b96 b97 b98 b99 b100 b101 b102 b103 b104 b105 b106 b107 b108 b109 b110 b111 b112 b113 b114 b115 b116 b117 b118 b119 b120 b121 b122 b123 b124 b125 b126 b127 b128 b129 b130 b131 b132 b133 b134 b135 b136 b137 b138 b139 b140 b141 b142 b143 b144 b145 b146 b147 b148 b149 b150 b151 b152 b153 b154 b155 b156 b157 b158 b159 b160 b161 b162 b163 : BitVec 8) : P.State :=
  let t1 : BitVec 64 := (HH.le64 [b0, b1, b2, b3, b4, b5, b6, b7])
  let t2 : BitVec 64 := (HH.le64 [b8, b9, b10, b11, b12, b13, b14, b15])
  let t3 : BitVec 64 := (HH.le64 [b16, b17, b18, b19, b20, b21, b22, b23])
  let t4 : BitVec 64 := (HH.le64 [b24, b25, b26, b27, b28, b29, b30, b31])
  let t5 : BitVec 64 := (HH.le64 [b32, b33, b34, b35, b36, b37, b38, b39])
  let t6 : BitVec 64 := (HH.le64 [b40, b41, b42, b43, b44, b45, b46, b47])
  let t7 : BitVec 64 := (HH.le64 [b48, b49, b50, b51, b52, b53, b54, b55])
  let t8 : BitVec 64 := (HH.le64 [b56, b57, b58, b59, b60, b61, b62, b63])
  let t9 : BitVec 64 := (HH.le64 [b64, b65, b66, b67, b68, b69, b70, b71])
  let t10 : BitVec 64 := (HH.le64 [b72, b73, b74, b75, b76, b77, b78, b79])
  let t11 : BitVec 64 := (HH.le64 [b80, b81, b82, b83, b84, b85, b86, b87])
  let t12 : BitVec 64 := (HH.le64 [b88, b89, b90, b91, b92, b93, b94, b95])
  let t13 : BitVec 64 := (HH.le64 [b96, b97, b98, b99, b100, b101, b102, b103])
  let t14 : BitVec 64 := (HH.le64 [b104, b105, b106, b107, b108, b109, b110, b111])
  let t15 : BitVec 64 := (HH.le64 [b112, b113, b114, b115, b116, b117, b118, b119])
  let t16 : BitVec 64 := (HH.le64 [b120, b121, b122, b123, b124, b125, b126, b127])
  ⟨⟨⟨t1, t2, t3, t4⟩, ⟨t5, t6, t7, t8⟩, ⟨t9, t10, t11, t12⟩, ⟨t13, t14, t15, t16⟩⟩, ⟨[b128, b129, b130, b131, b132, b133, b134, b135, b136, b137, b138, b139, b140, b141, b142, b143, b144, (0#8), (0#8), (0#8), (0#8), (0#8), (0#8), (0#8), (0#8), (0#8), (0#8), (0#8), (0#8), (0#8), (0#8), (0#8)], 17⟩⟩
def fromCheckpoint18 (b0 b1 b2 b3 b4 b5 b6 b7 b8 b9 b10 b11 b12 b13 b14 b15 b16 b17 b18 b19 b20 b21 b22 b23 b24 b25 b26 b27 b28 b29 b30 b31 b32 b33 b34 b35 b36 b37 b38 b39 b40 b41 b42 b43 b44 b45 b46 b47 b48 b49 b50 b51 b52 b53 b54 b55 b56 b57 b58 b59 b60 b61 b62 b63 b64 b65 b66 b67 b68 b69 b70 b71 b72 b73 b74 b75 b76 b77 b78 b79 b80 b81 b82 b83 b84 b85 b86 b87 b88 b89 b90 b91 b92 b93 b94 b95 b96 b97 b98 b99 b100 b101 b102 b103 b104 b105 b106 b107 b108 b109 b110 b111 b112 b113 b114 b115 b116 b117 b118 b119 b120 b121 b122 b123 b124 b125 b126 b127 b128 b129 b130 b131 b132 b133 b134 b135 b136 b137 b138 b139 b140 b141 b142 b143 b144 b145 b146 b147 b148 b149 b150 b151 b152 b153 b154 b155 b156 b157 b158 b159 b160 b161 b162 b163 : BitVec 8) : P.State :=
  let t1 : BitVec 64 := (HH.le64 [b0, b1, b2, b3, b4, b5, b6, b7])
  let t2 : BitVec 64 := (HH.le64 [b8, b9, b10, b11, b12, b13, b14, b15])
  let t3 : BitVec 64 := (HH.le64 [b16, b17, b18, b19, b20, b21, b22, b23])
  let t4 : BitVec 64 := (HH.le64 [b24, b25, b26, b27, b28, b29, b30, b31])
  let t5 : BitVec 64 := (HH.le64 [b32, b33, b34, b35, b36, b37, b38, b39])
  let t6 : BitVec 64 := (HH.le64 [b40, b41, b42, b43, b44, b45, b46, b47])
  let t7 : BitVec 64 := (HH.le64 [b48, b49, b50, b51, b52, b53, b54, b55])
  let t8 : BitVec 64 := (HH.le64 [b56, b57, b58, b59, b60, b61, b62, b63])
  let t9 : BitVec 64 := (HH.le64 [b64, b65, b66, b67, b68, b69, b70, b71])
  let t10 : BitVec 64 := (HH.le64 [b72, b73, b74, b75, b76, b77, b78, b79])
  let t11 : BitVec 64 := (HH.le64 [b80, b81, b82, b83, b84, b85, b86, b87])
  let t12 : BitVec 64 := (HH.le64 [b88, b89, b90, b91, b92, b93, b94, b95])
  let t13 : BitVec 64 := (HH.le64 [b96, b97, b98, b99, b100, b101, b102, b103])
  let t14 : BitVec 64 := (HH.le64 [b104, b105, b106, b107, b108, b109, b110, b111])
  let t15 : BitVec 64 := (HH.le64 [b112, b113, b114, b115, b116, b117, b118, b119])
  let t16 : BitVec 64 := (HH.le64 [b120, b121, b122, b123, b124, b125, b126, b127])
  ⟨⟨⟨t1, t2, t3, t4⟩, ⟨t5, t6, t7, t8⟩, ⟨t9, t10, t11, t12⟩, ⟨t13, t14, t15, t16⟩⟩, ⟨[b128, b129, b130, b131, b132, b133, b134, b135, b136, b137, b138, b139, b140, b141, b142, b143, b144, b145, (0#8), (0#8), (0#8), (0#8), (0#8), (0#8), (0#8), (0#8), (0#8), (0#8), (0#8), (0#8), (0#8), (0#8)], 18⟩⟩
def fromCheckpoint19 (b0 b1 b2 b3 b4 b5 b6 b7 b8 b9 b10 b11 b12 b13 b14 b15 b16 b17 b18 b19 b20 b21 b22 b23 b24 b25 b26 b27 b28 b29 b30 b31 b32 b33 b34 b35 b36 b37 b38 b39 b40 b41 b42 b43 b44 b45 b46 b47 b48 b49 b50 b51 b52 b53 b54 b55 b56 b57 b58 b59 b60 b61 b62 b63 b64 b65 b66 b67 b68 b69 b70 b71 b72 b73 b74 b75 b76 b77 b78 b79 b80 b81 b82 b83 b84 b85 b86 b87 b88 b89 b90 b91 b92 b93 b94 b95 b96 b97 b98 b99 b100 b101 b102 b103 b104 b105 b106 b107 b108 b109 b110 b111 b112 b113 b114 b115 b116 b117 b118 b119 b120 b121 b122 b123 b124 b125 b126 b127 b128 b129 b130 b131 b132 b133 b134 b135 b136 b137 b138 b139 b140 b141 b142 b143 b144 b145 b146 b147 b148 b149 b150 b151 b152 b153 b154 b155 b156 b157 b158 b159 b160 b161 b162 b163 : BitVec 8) : P.State :=
  let t1 : BitVec 64 := (HH.le64 [b0, b1, b2, b3, b4, b5, b6, b7])
  let t2 : BitVec 64 := (HH.le64 [b8, b9, b10, b11, b12, b13, b14, b15])
  let t3 : BitVec 64 := (HH.le64 [b16, b17, b18, b19, b20, b21, b22, b23])
  let t4 : BitVec 64 := (HH.le64 [b24, b25, b26, b27, b28, b29, b30, b31])
  let t5 : BitVec 64 := (HH.le64 [b32, b33, b34, b35, b36, b37, b38, b39])
  let t6 : BitVec 64 := (HH.le64 [b40, b41, b42, b43, b44, b45, b46, b47])
  let t7 : BitVec 64 := (HH.le64 [b48, b49, b50, b51, b52, b53, b54, b55])
  let t8 : BitVec 64 := (HH.le64 [b56, b57, b58, b59, b60, b61, b62, b63])
  let t9 : BitVec 64 := (HH.le64 [b64, b65, b66, b67, b68, b69, b70, b71])
  let t10 : BitVec 64 := (HH.le64 [b72, b73, b74, b75, b76, b77, b78, b79])
  let t11 : BitVec 64 := (HH.le64 [b80, b81, b82, b83, b84, b85, b86, b87])
  let t12 : BitVec 64 := (HH.le64 [b88, b89, b90, b91, b92, b93, b94, b95])
  let t13 : BitVec 64 := (HH.le64 [b96, b97, b98, b99, b100, b101, b102, b103])
  let t14 : BitVec 64 := (HH.le64 [b104, b105, b106, b107, b108, b109, b110, b111])
  let t15 : BitVec 64 := (HH.le64 [b112, b113, b114, b115, b116, b117, b118, b119])
  let t16 : BitVec 64 := (HH.le64 [b120, b121, b122, b123, b124, b125, b126, b127])
  ⟨⟨⟨t1, t2, t3, t4⟩, ⟨t5, t6, t7, t8⟩, ⟨t9, t10, t11, t12⟩, ⟨t13, t14, t15, t16⟩⟩, ⟨[b128, b129, b130, b131, b132, b133, b134, b135, b136, b137, b138, b139, b140, b141, b142, b143, b144, b145, b146, (0#8), (0#8), (0#8), (0#8), (0#8), (0#8), (0#8), (0#8), (0#8), (0#8), (0#8), (0#8), (0#8)], 19⟩⟩
def fromCheckpoint20 (b0 b1 b2 b3 b4 b5 b6 b7 b8 b9 b10 b11 b12 b13 b14 b15 b16 b17 b18 b19 b20 b21 b22 b23 b24 b25 b26 b27 b28 b29 b30 b31 b32 b33 b34 b35 b36 b37 b38 b39 b40 b41 b42 b43 b44 b45 b46 b47 b48 b49 b50 b51 b52 b53 b54 b55 b56 b57 b58 b59 b60 b61 b62 b63 b64 b65 b66 b67 b68 b69 b70 b71 b72 b73 b74 b75 b76 b77 b78 b79 b80 b81 b82 b83 b84 b85 b86 b87 b88 b89 b90 b91 b92 b93 b94 b95 b96 b97 b98 b99 b100 b101 b102 b103 b104 b105 b106 b107 b108 b109 b110 b111 b112 b113 b114 b115 b116 b117 b118 b119 b120 b121 b122 b123 b124 b125 b126 b127 b128 b129 b130 b131 b132 b133 b134 b135 b136 b137 b138 b139 b140 b141 b142 b143 b144 b145 b146 b147 b148 b149 b150 b151 b152 b153 b154 b155 b156 b157 b158 b159 b160 b161 b162 b163 : BitVec 8) : P.State :=
  let t1 : BitVec 64 := (HH.le64 [b0, b1, b2, b3, b4, b5, b6, b7])
  let t2 : BitVec 64 := (HH.le64 [b8, b9, b10, b11, b12, b13, b14, b15])
  let t3 : BitVec 64 := (HH.le64 [b16, b17, b18, b19, b20, b21, b22, b23])
  let t4 : BitVec 64 := (HH.le64 [b24, b25, b26, b27, b28, b29, b30, b31])
  let t5 : BitVec 64 := (HH.le64 [b32, b33, b34, b35, b36, b37, b38, b39])
  let t6 : BitVec 64 := (HH.le64 [b40, b41, b42, b43, b44, b45, b46, b47])
  let t7 : BitVec 64 := (HH.le64 [b48, b49, b50, b51, b52, b53, b54, b55])
  let t8 : BitVec 64 := (HH.le64 [b56, b57, b58, b59, b60, b61, b62, b63])
  let t9 : BitVec 64 := (HH.le64 [b64, b65, b66, b67, b68, b69, b70, b71])
  let t10 : BitVec 64 := (HH.le64 [b72, b73, b74, b75, b76, b77, b78, b79])
  let t11 : BitVec 64 := (HH.le64 [b80, b81, b82, b83, b84, b85, b86, b87])
  let t12 : BitVec 64 := (HH.le64 [b88, b89, b90, b91, b92, b93, b94, b95])
  let t13 : BitVec 64 := (HH.le64 [b96, b97, b98, b99, b100, b101, b102, b103])
  let t14 : BitVec 64 := (HH.le64 [b104, b105, b106, b107, b108, b109, b110, b111])
  let t15 : BitVec 64 := (HH.le64 [b112, b113, b114, b115, b116, b117, b118, b119])
  let t16 : BitVec 64 := (HH.le64 [b120, b121, b122, b123, b124, b125, b126, b127])
  ⟨⟨⟨t1, t2, t3, t4⟩, ⟨t5, t6, t7, t8⟩, ⟨t9, t10, t11, t12⟩, ⟨t13, t14, t15, t16⟩⟩, ⟨[b128, b129, b130, b131, b132, b133, b134, b135, b136, b137, b138, b139, b140, b141, b142, b143, b144, b145, b146, b147, (0#8), (0#8), (0#8), (0#8), (0#8), (0#8), (0#8), (0#8), (0#8), (0#8), (0#8), (0#8)], 20⟩⟩
def fromCheckpoint21 (b0 b1 b2 b3 b4 b5 b6 b7 b8 b9 b10 b11 b12 b13 b14 b15 b16 b17 b18 b19 b20 b21 b22 b23 b24 b25 b26 b27 b28 b29 b30 b31 b32 b33 b34 b35 b36 b37 b38 b39 b40 b41 b42 b43 b44 b45 b46 b47 b48 b49 b50 b51 b52 b53 b54 b55 b56 b57 b58 b59 b60 b61 b62 b63 b64 b65 b66 b67 b68 b69 b70 b71 b72 b73 b74 b75 b76 b77 b78 b79 b80 b81 b82 b83 b84 b85 b86 b87 b88 b89 b90 b91 b92 b93 b94 b95 b96 b97 b98 b99 b100 b101 b102 b103 b104 b105 b106 b107 b108 b109 b110 b111 b112 b113 b114 b115 b116 b117 b118 b119 b120 b121 b122 b123 b124 b125 b126 b127 b128 b129 b130 b131 b132 b133 b134 b135 b136 b137 b138 b139 b140 b141 b142 b143 b144 b145 b146 b147 b148 b149 b150 b151 b152 b153 b154 b155 b156 b157 b158 b159 b160 b161 b162 b163 : BitVec 8) : P.State :=
  let t1 : BitVec 64 := (HH.le64 [b0, b1, b2, b3, b4, b5, b6, b7])
  let t2 : BitVec 64 := (HH.le64 [b8, b9, b10, b11, b12, b13, b14, b15])
  let t3 : BitVec 64 := (HH.le64 [b16, b17, b18, b19, b20, b21, b22, b23])
  let t4 : BitVec 64 := (HH.le64 [b24, b25, b26, b27, b28, b29, b30, b31])
  let t5 : BitVec 64 := (HH.le64 [b32, b33, b34, b35, b36, b37, b38, b39])
  let t6 : BitVec 64 := (HH.le64 [b40, b41, b42, b43, b44, b45, b46, b47])
  let t7 : BitVec 64 := (HH.le64 [b48, b49, b50, b51, b52, b53, b54, b55])
  let t8 : BitVec 64 := (HH.le64 [b56, b57, b58, b59, b60, b61, b62, b63])
  let t9 : BitVec 64 := (HH.le64 [b64, b65, b66, b67, b68, b69, b70, b71])
  let t10 : BitVec 64 := (HH.le64 [b72, b73, b74, b75, b76, b77, b78, b79])
  let t11 : BitVec 64 := (HH.le64 [b80, b81, b82, b83, b84, b85, b86, b87])
  let t12 : BitVec 64 := (HH.le64 [b88, b89, b90, b91, b92, b93, b94, b95])
  let t13 : BitVec 64 := (HH.le64 [b96, b97, b98, b99, b100, b101, b102, b103])
  let t14 : BitVec 64 := (HH.le64 [b104, b105, b106, b107, b108, b109, b110, b111])
  let t15 : BitVec 64 := (HH.le64 [b112, b113, b114, b115, b116, b117, b118, b119])
  let t16 : BitVec 64 := (HH.le64 [b120, b121, b122, b123, b124, b125, b126, b127])
  ⟨⟨⟨t1, t2, t3, t4⟩, ⟨t5, t6, t7, t8⟩, ⟨t9, t10, t11, t12⟩, ⟨t13, t14, t15, t16⟩⟩, ⟨[b128, b129, b130, b131, b132, b133, b134, b135, b136, b137, b138, b139, b140, b141, b142, b143, b144, b145, b146, b147, b148, (0#8), (0#8), (0#8), (0#8), (0#8), (0#8), (0#8), (0#8), (0#8), (0#8), (0#8)], 21⟩⟩
def fromCheckpoint22 (b0 b1 b2 b3 b4 b5 b6 b7 b8 b9 b10 b11 b12 b13 b14 b15 b16 b17 b18 b19 b20 b21 b22 b23 b24 b25 b26 b27 b28 b29 b30 b31 b32 b33 b34 b35 b36 b37 b38 b39 b40 b41 b42 b43 b44 b45 b46 b47 b48 b49 b50 b51 b52 b53 b54 b55 b56 b57 b58 b59 b60 b61 b62 b63 b64 b65 b66 b67 b68 b69 b70 b71 b72 b73 b74 b75 b76 b77 b78 b79 b80 b81 b82 b83 b84 b85 b86 b87 b88 b89 b90 b91 b92 b93 b94 b95 b96 b97 b98 b99 b100 b101 b102 b103 b104 b105 b106 b107 b108 b109 b110 b111 b112 b113 b114 b115 b116 b117 b118 b119 b120 b121 b122 b123 b124 b125 b126 b127 b128 b129 b130 b131 b132 b133 b134 b135 b136 b137 b138 b139 b140 b141 b142 b143 b144 b145 b146 b147 b148 b149 b150 b151 b152 b153 b154 b155 b156 b157 b158 b159 b160 b161 b162 b163 : BitVec 8) : P.State :=
  let t1 : BitVec 64 := (HH.le64 [b0, b1, b2, b3, b4, b5, b6, b7])
  let t2 : BitVec 64 := (HH.le64 [b8, b9, b10, b11, b12, b13, b14, b15])
  let t3 : BitVec 64 := (HH.le64 [b16, b17, b18, b19, b20, b21, b22, b23])
  let t4 : BitVec 64 := (HH.le64 [b24, b25, b26, b27, b28, b29, b30, b31])
  let t5 : BitVec 64 := (HH.le64 [b32, b33, b34, b35, b36, b37, b38, b39])
  let t6 : BitVec 64 := (HH.le64 [b40, b41, b42, b43, b44, b45, b46, b47])
  let t7 : BitVec 64 := (HH.le64 [b48, b49, b50, b51, b52, b53, b54, b55])
  let t8 : BitVec 64 := (HH.le64 [b56, b57, b58, b59, b60, b61, b62, b63])
  let t9 : BitVec 64 := (HH.le64 [b64, b65, b66, b67, b68, b69, b70, b71])
  let t10 : BitVec 64 := (HH.le64 [b72, b73, b74, b75, b76, b77, b78, b79])
  let t11 : BitVec 64 := (HH.le64 [b80, b81, b82, b83, b84, b85, b86, b87])
  let t12 : BitVec 64 := (HH.le64 [b88, b89, b90, b91, b92, b93, b94, b95])
  let t13 : BitVec 64 := (HH.le64 [b96, b97, b98, b99, b100, b101, b102, b103])
  let t14 : BitVec 64 := (HH.le64 [b104, b105, b106, b107, b108, b109, b110, b111])
  let t15 : BitVec 64 := (HH.le64 [b112, b113, b114, b115, b116, b117, b118, b119])
  let t16 : BitVec 64 := (HH.le64 [b120, b121, b122, b123, b124, b125, b126, b127])
  ⟨⟨⟨t1, t2, t3, t4⟩, ⟨t5, t6, t7, t8⟩, ⟨t9, t10, t11, t12⟩, ⟨t13, t14, t15, t16⟩⟩, ⟨[b128, b129, b130, b131, b132, b133, b134, b135, b136, b137, b138, b139, b140, b141, b142, b143, b144, b145, b146, b147, b148, b149, (0#8), (0#8), (0#8), (0#8), (0#8), (0#8), (0#8), (0#8), (0#8), (0#8)], 22⟩⟩
def fromCheckpoint23 (b0 b1 b2 b3 b4 b5 b6 b7 b8 b9 b10 b11 b12 b13 b14 b15 b16 b17 b18 b19 b20 b21 b22 b23 b24 b25 b26 b27 b28 b29 b30 b31 b32 b33 b34 b35 b36 b37 b38 b39 b40 b41 b42 b43 b44 b45 b46 b47 b48 b49 b50 b51 b52 b53 b54 b55 b56 b57 b58 b59 b60 b61 b62 b63 b64 b65 b66 b67 b68 b69 b70 b71 b72 b73 b74 b75 b76 b77 b78 b79 b80 b81 b82 b83 b84 b85 b86 b87 b88 b89 b90 b91 b92 b93 b94 b95 b96 b97 b98 b99 b100 b101 b102 b103 b104 b105 b106 b107 b108 b109 b110 b111 b112 b113 b114 b115 b116 b117 b118 b119 b120 b121 b122 b123 b124 b125 b126 b127 b128 b129 b130 b131 b132 b133 b134 b135 b136 b137 b138 b139 b140 b141 b142 b143 b144 b145 b146 b147 b148 b149 b150 b151 b152 b153 b154 b155 b156 b157 b158 b159 b160 b161 b162 b163 : BitVec 8) : P.State :=
  let t1 : BitVec 64 := (HH.le64 [b0, b1, b2, b3, b4, b5, b6, b7])
  let t2 : BitVec 64 := (HH.le64 [b8, b9, b10, b11, b12, b13, b14, b15])
  let t3 : BitVec 64 := (HH.le64 [b16, b17, b18, b19, b20, b21, b22, b23])
  let t4 : BitVec 64 := (HH.le64 [b24, b25, b26, b27, b28, b29, b30, b31])
  let t5 : BitVec 64 := (HH.le64 [b32, b33, b34, b35, b36, b37, b38, b39])
  let t6 : BitVec 64 := (HH.le64 [b40, b41, b42, b43, b44, b45, b46, b47])
  let t7 : BitVec 64 := (HH.le64 [b48, b49, b50, b51, b52, b53, b54, b55])
  let t8 : BitVec 64 := (HH.le64 [b56, b57, b58, b59, b60, b61, b62, b63])
  let t9 : BitVec 64 := (HH.le64 [b64, b65, b66, b67, b68, b69, b70, b71])
  let t10 : BitVec 64 := (HH.le64 [b72, b73, b74, b75, b76, b77, b78, b79])
  let t11 : BitVec 64 := (HH.le64 [b80, b81, b82, b83, b84, b85, b86, b87])
  let t12 : BitVec 64 := (HH.le64 [b88, b89, b90, b91, b92, b93, b94, b95])
  let t13 : BitVec 64 := (HH.le64 [b96, b97, b98, b99, b100, b101, b102, b103])
  let t14 : BitVec 64 := (HH.le64 [b104, b105, b106, b107, b108, b109, b110, b111])
  let t15 : BitVec 64 := (HH.le64 [b112, b113, b114, b115, b116, b117, b118, b119])
  let t16 : BitVec 64 := (HH.le64 [b120, b121, b122, b123, b124, b125, b126, b127])
  ⟨⟨⟨t1, t2, t3, t4⟩, ⟨t5, t6, t7, t8⟩, ⟨t9, t10, t11, t12⟩, ⟨t13, t14, t15, t16⟩⟩, ⟨[b128, b129, b130, b131, b132, b133, b134, b135, b136, b137, b138, b139, b140, b141, b142, b143, b144, b145, b146, b147, b148, b149, b150, (0#8), (0#8), (0#8), (0#8), (0#8), (0#8), (0#8), (0#8), (0#8)], 23⟩⟩
def fromCheckpoint24 (b0 b1 b2 b3 b4 b5 b6 b7 b8 b9 b10 b11 b12 b13 b14 b15 b16 b17 b18 b19 b20 b21 b22 b23 b24 b25 b26 b27 b28 b29 b30 b31 b32 b33 b34 b35 b36 b37 b38 b39 b40 b41 b42 b43 b44 b45 b46 b47 b48 b49 b50 b51 b52 b53 b54 b55 b56 b57 b58 b59 b60 b61 b62 b63 b64 b65 b66 b67 b68 b69 b70 b71 b72 b73 b74 b75 b76 b77 b78 b79 b80 b81 b82 b83 b84 b85 b86 b87 b88 b89 b90 b91 b92 b93 b94 b95 b96 b97 b98 b99 b100 b101 b102 b103 b104 b105 b106 b107 b108 b109 b110 b111 b112 b113 b114 b115 b116 b117 b118 b119 b120 b121 b122 b123 b124 b125 b126 b127 b128 b129 b130 b131 b132 b133 b134 b135 b136 b137 b138 b139 b140 b141 b142 b143 b144 b145 b146 b147 b148 b149 b150 b151 b152 b153 b154 b155 b156 b157 b158 b159 b160 b161 b162 b163 : BitVec 8) : P.State :=
  let t1 : BitVec 64 := (HH.le64 [b0, b1, b2, b3, b4, b5, b6, b7])
  let t2 : BitVec 64 := (HH.le64 [b8, b9, b10, b11, b12, b13, b14, b15])
  let t3 : BitVec 64 := (HH.le64 [b16, b17, b18, b19, b20, b21, b22, b23])
  let t4 : BitVec 64 := (HH.le64 [b24, b25, b26, b27, b28, b29, b30, b31])
  let t5 : BitVec 64 := (HH.le64 [b32, b33, b34, b35, b36, b37, b38, b39])
  let t6 : BitVec 64 := (HH.le64 [b40, b41, b42, b43, b44, b45, b46, b47])
  let t7 : BitVec 64 := (HH.le64 [b48, b49, b50, b51, b52, b53, b54, b55])
  let t8 : BitVec 64 := (HH.le64 [b56, b57, b58, b59, b60, b61, b62, b63])
  let t9 : BitVec 64 := (HH.le64 [b64, b65, b66, b67, b68, b69, b70, b71])
  let t10 : BitVec 64 := (HH.le64 [b72, b73, b74, b75, b76, b77, b78, b79])
  let t11 : BitVec 64 := (HH.le64 [b80, b81, b82, b83, b84, b85, b86, b87])
  let t12 : BitVec 64 := (HH.le64 [b88, b89, b90, b91, b92, b93, b94, b95])
  let t13 : BitVec 64 := (HH.le64 [b96, b97, b98, b99, b100, b101, b102, b103])
  let t14 : BitVec 64 := (HH.le64 [b104, b105, b106, b107, b108, b109, b110, b111])
  let t15 : BitVec 64 := (HH.le64 [b112, b113, b114, b115, b116, b117, b118, b119])
  let t16 : BitVec 64 := (HH.le64 [b120, b121, b122, b123, b124, b125, b126, b127])
  ⟨⟨⟨t1, t2, t3, t4⟩, ⟨t5, t6, t7, t8⟩, ⟨t9, t10, t11, t12⟩, ⟨t13, t14, t15, t16⟩⟩, ⟨[b128, b129, b130, b131, b132, b133, b134, b135, b136, b137, b138, b139, b140, b141, b142, b143, b144, b145, b146, b147, b148, b149, b150, b151, (0#8), (0#8), (0#8), (0#8), (0#8), (0#8), (0#8), (0#8)], 24⟩⟩
def fromCheckpoint25 (b0 b1 b2 b3 b4 b5 b6 b7 b8 b9 b10 b11 b12 b13 b14 b15 b16 b17 b18 b19 b20 b21 b22 b23 b24 b25 b26 b27 b28 b29 b30 b31 b32 b33 b34 b35 b36 b37 b38 b39 b40 b41 b42 b43 b44 b45 b46 b47 b48 b49 b50 b51 b52 b53 b54 b55 b56 b57 b58 b59 b60 b61 b62 b63 b64 b65 b66 b67 b68 b69 b70 b71 b72 b73 b74 b75 b76 b77 b78 b79 b80 b81 b82 b83 b84 b85 b86 b87 b88 b89 b90 b91 b92 b93 b94 b95 b96 b97 b98 b99 b100 b101 b102 b103 b104 b105 b106 b107 b108 b109 b110 b111 b112 b113 b114 b115 b116 b117 b118 b119 b120 b121 b122 b123 b124 b125 b126 b127 b128 b129 b130 b131 b132 b133 b134 b135 b136 b137 b138 b139 b140 b141 b142 b143 b144 b145 b146 b147 b148 b149 b150 b151 b152 b153 b154 b155 b156 b157 b158 b159 b160 b161 b162 b163 : BitVec 8) : P.State :=
  let t1 : BitVec 64 := (HH.le64 [b0, b1, b2, b3, b4, b5, b6, b7])
  let t2 : BitVec 64 := (HH.le64 [b8, b9, b10, b11, b12, b13, b14, b15])
  let t3 : BitVec 64 := (HH.le64 [b16, b17, b18, b19, b20, b21, b22, b23])
  let t4 : BitVec 64 := (HH.le64 [b24, b25, b26, b27, b28, b29, b30, b31])
  let t5 : BitVec 64 := (HH.le64 [b32, b33, b34, b35, b36, b37, b38, b39])
  let t6 : BitVec 64 := (HH.le64 [b40, b41, b42, b43, b44, b45, b46, b47])
  let t7 : BitVec 64 := (HH.le64 [b48, b49, b50, b51, b52, b53, b54, b55])
  let t8 : BitVec 64 := (HH.le64 [b56, b57, b58, b59, b60, b61, b62, b63])
  let t9 : BitVec 64 := (HH.le64 [b64, b65, b66, b67, b68, b69, b70, b71])
  let t10 : BitVec 64 := (HH.le64 [b72, b73, b74, b75, b76, b77, b78, b79])
  let t11 : BitVec 64 := (HH.le64 [b80, b81, b82, b83, b84, b85, b86, b87])
  let t12 : BitVec 64 := (HH.le64 [b88, b89, b90, b91, b92, b93, b94, b95])
  let t13 : BitVec 64 := (HH.le64 [b96, b97, b98, b99, b100, b101, b102, b103])
  let t14 : BitVec 64 := (HH.le64 [b104, b105, b106, b107, b108, b109, b110, b111])
  let t15 : BitVec 64 := (HH.le64 [b112, b113, b114, b115, b116, b117, b118, b119])
  let t16 : BitVec 64 := (HH.le64 [b120, b121, b122, b123, b124, b125, b126, b127])
  ⟨⟨⟨t1, t2, t3, t4⟩, ⟨t5, t6, t7, t8⟩, ⟨t9, t10, t11, t12⟩, ⟨t13, t14, t15, t16⟩⟩, ⟨[b128, b129, b130, b131, b132, b133, b134, b135, b136, b137, b138, b139, b140, b141, b142, b143, b144, b145, b146, b147, b148, b149, b150, b151, b152, (0#8), (0#8), (0#8), (0#8), (0#8), (0#8), (0#8)], 25⟩⟩
def fromCheckpoint26 (b0 b1 b2 b3 b4 b5 b6 b7 b8 b9 b10 b11 b12 b13 b14 b15 b16 b17 b18 b19 b20 b21 b22 b23 b24 b25 b26 b27 b28 b29 b30 b31 b32 b33 b34 b35 b36 b37 b38 b39 b40 b41 b42 b43 b44 b45 b46 b47 b48 b49 b50 b51 b52 b53 b54 b55 b56 b57 b58 b59 b60 b61 b62 b63 b64 b65 b66 b67 b68 b69 b70 b71 b72 b73 b74 b75 b76 b77 b78 b79 b80 b81 b82 b83 b84 b85 b86 b87 b88 b89 b90 b91 b92 b93 b94 b95 b96 b97 b98 b99 b100 b101 b102 b103 b104 b105 b106 b107 b108 b109 b110 b111 b112 b113 b114 b115 b116 b117 b118 b119 b120 b121 b122 b123 b124 b125 b126 b127 b128 b129 b130 b131 b132 b133 b134 b135 b136 b137 b138 b139 b140 b141 b142 b143 b144 b145 b146 b147 b148 b149 b150 b151 b152 b153 b154 b155 b156 b157 b158 b159 b160 b161 b162 b163 : BitVec 8) : P.State :=
  let t1 : BitVec 64 := (HH.le64 [b0, b1, b2, b3, b4, b5, b6, b7])
  let t2 : BitVec 64 := (HH.le64 [b8, b9, b10, b11, b12, b13, b14, b15])
  let t3 : BitVec 64 := (HH.le64 [b16, b17, b18, b19, b20, b21, b22, b23])
  let t4 : BitVec 64 := (HH.le64 [b24, b25, b26, b27, b28, b29, b30, b31])
  let t5 : BitVec 64 := (HH.le64 [b32, b33, b34, b35, b36, b37, b38, b39])
  let t6 : BitVec 64 := (HH.le64 [b40, b41, b42, b43, b44, b45, b46, b47])
  let t7 : BitVec 64 := (HH.le64 [b48, b49, b50, b51, b52, b53, b54, b55])
  let t8 : BitVec 64 := (HH.le64 [b56, b57, b58, b59, b60, b61, b62, b63])
  let t9 : BitVec 64 := (HH.le64 [b64, b65, b66, b67, b68, b69, b70, b71])
  let t10 : BitVec 64 := (HH.le64 [b72, b73, b74, b75, b76, b77, b78, b79])
  let t11 : BitVec 64 := (HH.le64 [b80, b81, b82, b83, b84, b85, b86, b87])
  let t12 : BitVec 64 := (HH.le64 [b88, b89, b90, b91, b92, b93, b94, b95])
  let t13 : BitVec 64 := (HH.le64 [b96, b97, b98, b99, b100, b101, b102, b103])
  let t14 : BitVec 64 := (HH.le64 [b104, b105, b106, b107, b108, b109, b110, b111])
  let t15 : BitVec 64 := (HH.le64 [b112, b113, b114, b115, b116, b117, b118, b119])
  let t16 : BitVec 64 := (HH.le64 [b120, b121, b122, b123, b124, b125, b126, b127])
  ⟨⟨⟨t1, t2, t3, t4⟩, ⟨t5, t6, t7, t8⟩, ⟨t9, t10, t11, t12⟩, ⟨t13, t14, t15, t16⟩⟩, ⟨[b128, b129, b130, b131, b132, b133, b134, b135, b136, b137, b138, b139, b140, b141, b142, b143, b144, b145, b146, b147, b148, b149, b150, b151, b152, b153, (0#8), (0#8), (0#8), (0#8), (0#8), (0#8)], 26⟩⟩
def fromCheckpoint27 (b0 b1 b2 b3 b4 b5 b6 b7 b8 b9 b10 b11 b12 b13 b14 b15 b16 b17 b18 b19 b20 b21 b22 b23 b24 b25 b26 b27 b28 b29 b30 b31 b32 b33 b34 b35 b36 b37 b38 b39 b40 b41 b42 b43 b44 b45 b46 b47 b48 b49 b50 b51 b52 b53 b54 b55 b56 b57 b58 b59 b60 b61 b62 b63 b64 b65 b66 b67 b68 b69 b70 b71 b72 b73 b74 b75 b76 b77 b78 b79 b80 b81 b82 b83 b84 b85 b86 b87 b88 b89 b90 b91 b92 b93 b94 b95 b96 b97 b98 b99 b100 b101 b102 b103 b104 b105 b106 b107 b108 b109 b110 b111 b112 b113 b114 b115 b116 b117 b118 b119 b120 b121 b122 b123 b124 b125 b126 b127 b128 b129 b130 b131 b132 b133 b134 b135 b136 b137 b138 b139 b140 b141 b142 b143 b144 b145 b146 b147 b148 b149 b150 b151 b152 b153 b154 b155 b156 b157 b158 b159 b160 b161 b162 b163 : BitVec 8) : P.State :=
  let t1 : BitVec 64 := (HH.le64 [b0, b1, b2, b3, b4, b5, b6, b7])
  let t2 : BitVec 64 := (HH.le64 [b8, b9, b10, b11, b12, b13, b14, b15])
  let t3 : BitVec 64 := (HH.le64 [b16, b17, b18, b19, b20, b21, b22, b23])
  let t4 : BitVec 64 := (HH.le64 [b24, b25, b26, b27, b28, b29, b30, b31])
  let t5 : BitVec 64 := (HH.le64 [b32, b33, b34, b35, b36, b37, b38, b39])
  let t6 : BitVec 64 := (HH.le64 [b40, b41, b42, b43, b44, b45, b46, b47])
  let t7 : BitVec 64 := (HH.le64 [b48, b49, b50, b51, b52, b53, b54, b55])
  let t8 : BitVec 64 := (HH.le64 [b56, b57, b58, b59, b60, b61, b62, b63])
  let t9 : BitVec 64 := (HH.le64 [b64, b65, b66, b67, b68, b69, b70, b71])
  let t10 : BitVec 64 := (HH.le64 [b72, b73, b74, b75, b76, b77, b78, b79])
  let t11 : BitVec 64 := (HH.le64 [b80, b81, b82, b83, b84, b85, b86, b87])
  let t12 : BitVec 64 := (HH.le64 [b88, b89, b90, b91, b92, b93, b94, b95])
  let t13 : BitVec 64 := (HH.le64 [b96, b97, b98, b99, b100, b101, b102, b103])
  let t14 : BitVec 64 := (HH.le64 [b104, b105, b106, b107, b108, b109, b110, b111])
  let t15 : BitVec 64 := (HH.le64 [b112, b113, b114, b115, b116, b117, b118, b119])
  let t16 : BitVec 64 := (HH.le64 [b120, b121, b122, b123, b124, b125, b126, b127])
  ⟨⟨⟨t1, t2, t3, t4⟩, ⟨t5, t6, t7, t8⟩, ⟨t9, t10, t11, t12⟩, ⟨t13, t14, t15, t16⟩⟩, ⟨[b128, b129, b130, b131, b132, b133, b134, b135, b136, b137, b138, b139, b140, b141, b142, b143, b144, b145, b146, b147, b148, b149, b150, b151, b152, b153, b154, (0#8), (0#8), (0#8), (0#8), (0#8)], 27⟩⟩
def fromCheckpoint28 (b0 b1 b2 b3 b4 b5 b6 b7 b8 b9 b10 b11 b12 b13 b14 b15 b16 b17 b18 b19 b20 b21 b22 b23 b24 b25 b26 b27 b28 b29 b30 b31 b32 b33 b34 b35 b36 b37 b38 b39 b40 b41 b42 b43 b44 b45 b46 b47 b48 b49 b50 b51 b52 b53 b54 b55 b56 b57 b58 b59 b60 b61 b62 b63 b64 b65 b66 b67 b68 b69 b70 b71 b72 b73 b74 b75 b76 b77 b78 b79 b80 b81 b82 b83 b84 b85 b86 b87 b88 b89 b90 b91 b92 b93 b94 b95 b96 b97 b98 b99 b100 b101 b102 b103 b104 b105 b106 b107 b108 b109 b110 b111 b112 b113 b114 b115 b116 b117 b118 b119 b120 b121 b122 b123 b124 b125 b126 b127 b128 b129 b130 b131 b132 b133 b134 b135 b136 b137 b138 b139 b140 b141 b142 b143 b144 b145 b146 b147 b148 b149 b150 b151 b152 b153 b154 b155 b156 b157 b158 b159 b160 b161 b162 b163 : BitVec 8) : P.State :=
  let t1 : BitVec 64 := (HH.le64 [b0, b1, b2, b3, b4, b5, b6, b7])
  let t2 : BitVec 64 := (HH.le64 [b8, b9, b10, b11, b12, b13, b14, b15])
  let t3 : BitVec 64 := (HH.le64 [b16, b17, b18, b19, b20, b21, b22, b23])
  let t4 : BitVec 64 := (HH.le64 [b24, b25, b26, b27, b28, b29, b30, b31])
  let t5 : BitVec 64 := (HH.le64 [b32, b33, b34, b35, b36, b37, b38, b39])
  let t6 : BitVec 64 := (HH.le64 [b40, b41, b42, b43, b44, b45, b46, b47])
  let t7 : BitVec 64 := (HH.le64 [b48, b49, b50, b51, b52, b53, b54, b55])
  let t8 : BitVec 64 := (HH.le64 [b56, b57, b58, b59, b60, b61, b62, b63])
  let t9 : BitVec 64 := (HH.le64 [b64, b65, b66, b67, b68, b69, b70, b71])
  let t10 : BitVec 64 := (HH.le64 [b72, b73, b74, b75, b76, b77, b78, b79])
  let t11 : BitVec 64 := (HH.le64 [b80, b81, b82, b83, b84, b85, b86, b87])
  let t12 : BitVec 64 := (HH.le64 [b88, b89, b90, b91, b92, b93, b94, b95])
  let t13 : BitVec 64 := (HH.le64 [b96, b97, b98, b99, b100, b101, b102, b103])
  let t14 : BitVec 64 := (HH.le64 [b104, b105, b106, b107, b108, b109, b110, b111])
  let t15 : BitVec 64 := (HH.le64 [b112, b113, b114, b115, b116, b117, b118, b119])
  let t16 : BitVec 64 := (HH.le64 [b120, b121, b122, b123, b124, b125, b126, b127])
  ⟨⟨⟨t1, t2, t3, t4⟩, ⟨t5, t6, t7, t8⟩, ⟨t9, t10, t11, t12⟩, ⟨t13, t14, t15, t16⟩⟩, ⟨[b128, b129, b130, b131, b132, b133, b134, b135, b136, b137, b138, b139, b140, b141, b142, b143, b144, b145, b146, b147, b148, b149, b150, b151, b152, b153, b154, b155, (0#8), (0#8), (0#8), (0#8)], 28⟩⟩
def fromCheckpoint29 (b0 b1 b2 b3 b4 b5 b6 b7 b8 b9 b10 b11 b12 b13 b14 b15 b16 b17 b18 b19 b20 b21 b22 b23 b24 b25 b26 b27 b28 b29 b30 b31 b32 b33 b34 b35 b36 b37 b38 b39 b40 b41 b42 b43 b44 b45 b46 b47 b48 b49 b50 b51 b52 b53 b54 b55 b56 b57 b58 b59 b60 b61 b62 b63 b64 b65 b66 b67 b68 b69 b70 b71 b72 b73 b74 b75 b76 b77 b78 b79 b80 b81 b82 b83 b84 b85 b86 b87 b88 b89 b90 b91 b92 b93 b94 b95 b96 b97 b98 b99 b100 b101 b102 b103 b104 b105 b106 b107 b108 b109 b110 b111 b112 b113 b114 b115 b116 b117 b118 b119 b120 b121 b122 b123 b124 b125 b126 b127 b128 b129 b130 b131 b132 b133 b134 b135 b136 b137 b138 b139 b140 b141 b142 b143 b144 b145 b146 b147 b148 b149 b150 b151 b152 b153 b154 b155 b156 b157 b158 b159 b160 b161 b162 b163 : BitVec 8) : P.State :=
  let t1 : BitVec 64 := (HH.le64 [b0, b1, b2, b3, b4, b5, b6, b7])
  let t2 : BitVec 64 := (HH.le64 [b8, b9, b10, b11, b12, b13, b14, b15])
  let t3 : BitVec 64 := (HH.le64 [b16, b17, b18, b19, b20, b21, b22, b23])
  let t4 : BitVec 64 := (HH.le64 [b24, b25, b26, b27, b28, b29, b30, b31])
  let t5 : BitVec 64 := (HH.le64 [b32, b33, b34, b35, b36, b37, b38, b39])
  let t6 : BitVec 64 := (HH.le64 [b40, b41, b42, b43, b44, b45, b46, b47])
  let t7 : BitVec 64 := (HH.le64 [b48, b49, b50, b51, b52, b53, b54, b55])
  let t8 : BitVec 64 := (HH.le64 [b56, b57, b58, b59, b60, b61, b62, b63])
  let t9 : BitVec 64 := (HH.le64 [b64, b65, b66, b67, b68, b69, b70, b71])
  let t10 : BitVec 64 := (HH.le64 [b72, b73, b74, b75, b76, b77, b78, b79])
  let t11 : BitVec 64 := (HH.le64 [b80, b81, b82, b83, b84, b85, b86, b87])
  let t12 : BitVec 64 := (HH.le64 [b88, b89, b90, b91, b92, b93, b94, b95])
  let t13 : BitVec 64 := (HH.le64 [b96, b97, b98, b99, b100, b101, b102, b103])
  let t14 : BitVec 64 := (HH.le64 [b104, b105, b106, b107, b108, b109, b110, b111])
  let t15 : BitVec 64 := (HH.le64 [b112, b113, b114, b115, b116, b117, b118, b119])
  let t16 : BitVec 64 := (HH.le64 [b120, b121, b122, b123, b124, b125, b126, b127])
  ⟨⟨⟨t1, t2, t3, t4⟩, ⟨t5, t6, t7, t8⟩, ⟨t9, t10, t11, t12⟩, ⟨t13, t14, t15, t16⟩⟩, ⟨[b128, b129, b130, b131, b132, b133, b134, b135, b136, b137, b138, b139, b140, b141, b142, b143, b144, b145, b146, b147, b148, b149, b150, b151, b152, b153, b154, b155, b156, (0#8), (0#8), (0#8)], 29⟩⟩
def fromCheckpoint30 (b0 b1 b2 b3 b4 b5 b6 b7 b8 b9 b10 b11 b12 b13 b14 b15 b16 b17 b18 b19 b20 b21 b22 b23 b24 b25 b26 b27 b28 b29 b30 b31 b32 b33 b34 b35 b36 b37 b38 b39 b40 b41 b42 b43 b44 b45 b46 b47 b48 b49 b50 b51 b52 b53 b54 b55 b56 b57 b58 b59 b60 b61 b62 b63 b64 b65 b66 b67 b68 b69 b70 b71 b72 b73 b74 b75 b76 b77 b78 b79 b80 b81 b82 b83 b84 b85 b86 b87 b88 b89 b90 b91 b92 b93 b94 b95 b96 b97 b98 b99 b100 b101 b102 b103 b104 b105 b106 b107 b108 b109 b110 b111 b112 b113 b114 b115 b116 b117 b118 b119 b120 b121 b122 b123 b124 b125 b126 b127 b128 b129 b130 b131 b132 b133 b134 b135 b136 b137 b138 b139 b140 b141 b142 b143 b144 b145 b146 b147 b148 b149 b150 b151 b152 b153 b154 b155 b156 b157 b158 b159 b160 b161 b162 b163 : BitVec 8) : P.State :=
  let t1 : BitVec 64 := (HH.le64 [b0, b1, b2, b3, b4, b5, b6, b7])
  let t2 : BitVec 64 := (HH.le64 [b8, b9, b10, b11, b12, b13, b14, b15])
  let t3 : BitVec 64 := (HH.le64 [b16, b17, b18, b19, b20, b21, b22, b23])
  let t4 : BitVec 64 := (HH.le64 [b24, b25, b26, b27, b28, b29, b30, b31])
  let t5 : BitVec 64 := (HH.le64 [b32, b33, b34, b35, b36, b37, b38, b39])
  let t6 : BitVec 64 := (HH.le64 [b40, b41, b42, b43, b44, b45, b46, b47])
  let t7 : BitVec 64 := (HH.le64 [b48, b49, b50, b51, b52, b53, b54, b55])
  let t8 : BitVec 64 := (HH.le64 [b56, b57, b58, b59, b60, b61, b62, b63])
  let t9 : BitVec 64 := (HH.le64 [b64, b65, b66, b67, b68, b69, b70, b71])
  let t10 : BitVec 64 := (HH.le64 [b72, b73, b74, b75, b76, b77, b78, b79])
  let t11 : BitVec 64 := (HH.le64 [b80, b81, b82, b83, b84, b85, b86, b87])
  let t12 : BitVec 64 := (HH.le64 [b88, b89, b90, b91, b92, b93, b94, b95])
  let t13 : BitVec 64 := (HH.le64 [b96, b97, b98, b99, b100, b101, b102, b103])
  let t14 : BitVec 64 := (HH.le64 [b104, b105, b106, b107, b108, b109, b110, b111])
  let t15 : BitVec 64 := (HH.le64 [b112, b113, b114, b115, b116, b117, b118, b119])
  let t16 : BitVec 64 := (HH.le64 [b120, b121, b122, b123, b124, b125, b126, b127])
  ⟨⟨⟨t1, t2, t3, t4⟩, ⟨t5, t6, t7, t8⟩, ⟨t9, t10, t11, t12⟩, ⟨t13, t14, t15, t16⟩⟩, ⟨[b128, b129, b130, b131, b132, b133, b134, b135, b136, b137, b138, b139, b140, b141, b142, b143, b144, b145, b146, b147, b148, b149, b150, b151, b152, b153, b154, b155, b156, b157, (0#8), (0#8)], 30⟩⟩
def fromCheckpoint31 (b0 b1 b2 b3 b4 b5 b6 b7 b8 b9 b10 b11 b12 b13 b14 b15 b16 b17 b18 b19 b20 b21 b22 b23 b24 b25 b26 b27 b28 b29 b30 b31 b32 b33 b34 b35 b36 b37 b38 b39 b40 b41 b42 b43 b44 b45 b46 b47 b48 b49 b50 b51 b52 b53 b54 b55 b56 b57 b58 b59 b60 b61 b62 b63 b64 b65 b66 b67 b68 b69 b70 b71 b72 b73 b74 b75 b76 b77 b78 b79 b80 b81 b82 b83 b84 b85 b86 b87 b88 b89 b90 b91 b92 b93 b94 b95 b96 b97 b98 b99 b100 b101 b102 b103 b104 b105 b106 b107 b108 b109 b110 b111 b112 b113 b114 b115 b116 b117 b118 b119 b120 b121 b122 b123 b124 b125 b126 b127 b128 b129 b130 b131 b132 b133 b134 b135 b136 b137 b138 b139 b140 b141 b142 b143 b144 b145 b146 b147 b148 b149 b150 b151 b152 b153 b154 b155 b156 b157 b158 b159 b160 b161 b162 b163 : BitVec 8) : P.State :=
  let t1 : BitVec 64 := (HH.le64 [b0, b1, b2, b3, b4, b5, b6, b7])
  let t2 : BitVec 64 := (HH.le64 [b8, b9, b10, b11, b12, b13, b14, b15])
  let t3 : BitVec 64 := (HH.le64 [b16, b17, b18, b19, b20, b21, b22, b23])
  let t4 : BitVec 64 := (HH.le64 [b24, b25, b26, b27, b28, b29, b30, b31])
  let t5 : BitVec 64 := (HH.le64 [b32, b33, b34, b35, b36, b37, b38, b39])
  let t6 : BitVec 64 := (HH.le64 [b40, b41, b42, b43, b44, b45, b46, b47])
  let t7 : BitVec 64 := (HH.le64 [b48, b49, b50, b51, b52, b53, b54, b55])
  let t8 : BitVec 64 := (HH.le64 [b56, b57, b58, b59, b60, b61, b62, b63])
  let t9 : BitVec 64 := (HH.le64 [b64, b65, b66, b67, b68, b69, b70, b71])
  let t10 : BitVec 64 := (HH.le64 [b72, b73, b74, b75, b76, b77, b78, b79])
  let t11 : BitVec 64 := (HH.le64 [b80, b81, b82, b83, b84, b85, b86, b87])
  let t12 : BitVec 64 := (HH.le64 [b88, b89, b90, b91, b92, b93, b94, b95])
  let t13 : BitVec 64 := (HH.le64 [b96, b97, b98, b99, b100, b101, b102, b103])
  let t14 : BitVec 64 := (HH.le64 [b104, b105, b106, b107, b108, b109, b110, b111])
  let t15 : BitVec 64 := (HH.le64 [b112, b113, b114, b115, b116, b117, b118, b119])
  let t16 : BitVec 64 := (HH.le64 [b120, b121, b122, b123, b124, b125, b126, b127])
  ⟨⟨⟨t1, t2, t3, t4⟩, ⟨t5, t6, t7, t8⟩, ⟨t9, t10, t11, t12⟩, ⟨t13, t14, t15, t16⟩⟩, ⟨[b128, b129, b130, b131, b132, b133, b134, b135, b136, b137, b138, b139, b140, b141, b142, b143, b144, b145, b146, b147, b148, b149, b150, b151, b152, b153, b154, b155, b156, b157, b158, (0#8)], 31⟩⟩

def unorderedLoad3_0 : BitVec 64 :=
  (0x0#64)
def unorderedLoad3_1 (b0 : BitVec 8) : BitVec 64 :=
  let t1 : BitVec 64 := (BitVec.setWidth 64 b0)
  let t2 : BitVec 64 := (BitVec.setWidth 64 b0)
  let t3 : BitVec 64 := (t2 <<< 8)
  let t4 : BitVec 64 := (t1 + t3)
  let t5 : BitVec 64 := (BitVec.setWidth 64 b0)
  let t6 : BitVec 64 := (t5 <<< 16)
  let t7 : BitVec 64 := (t4 + t6)
  t7
def unorderedLoad3_2 (b0 b1 : BitVec 8) : BitVec 64 :=
  let t1 : BitVec 64 := (BitVec.setWidth 64 b0)
  let t2 : BitVec 64 := (BitVec.setWidth 64 b1)
  let t3 : BitVec 64 := (t2 <<< 8)
  let t4 : BitVec 64 := (t1 + t3)
  let t5 : BitVec 64 := (BitVec.setWidth 64 b1)
  let t6 : BitVec 64 := (t5 <<< 16)
  let t7 : BitVec 64 := (t4 + t6)
  t7
def unorderedLoad3_3 (b0 b1 b2 : BitVec 8) : BitVec 64 :=
  let t1 : BitVec 64 := (BitVec.setWidth 64 b0)
  let t2 : BitVec 64 := (BitVec.setWidth 64 b1)
  let t3 : BitVec 64 := (t2 <<< 8)
  let t4 : BitVec 64 := (t1 + t3)
  let t5 : BitVec 64 := (BitVec.setWidth 64 b2)
  let t6 : BitVec 64 := (t5 <<< 16)
  let t7 : BitVec 64 := (t4 + t6)
  t7
def unorderedLoad3_5 (b0 b1 b2 b3 b4 : BitVec 8) : BitVec 64 :=
  let t1 : BitVec 64 := (BitVec.setWidth 64 b0)
  let t2 : BitVec 64 := (BitVec.setWidth 64 b0)
  let t3 : BitVec 64 := (t2 <<< 8)
  let t4 : BitVec 64 := (t1 + t3)
  let t5 : BitVec 64 := (BitVec.setWidth 64 b0)
  let t6 : BitVec 64 := (t5 <<< 16)
  let t7 : BitVec 64 := (t4 + t6)
  t7
def unorderedLoad3_6 (b0 b1 b2 b3 b4 b5 : BitVec 8) : BitVec 64 :=
  let t1 : BitVec 64 := (BitVec.setWidth 64 b0)
  let t2 : BitVec 64 := (BitVec.setWidth 64 b1)
  let t3 : BitVec 64 := (t2 <<< 8)
  let t4 : BitVec 64 := (t1 + t3)
  let t5 : BitVec 64 := (BitVec.setWidth 64 b1)
  let t6 : BitVec 64 := (t5 <<< 16)
  let t7 : BitVec 64 := (t4 + t6)
  t7
def unorderedLoad3_7 (b0 b1 b2 b3 b4 b5 b6 : BitVec 8) : BitVec 64 :=
  let t1 : BitVec 64 := (BitVec.setWidth 64 b0)
  let t2 : BitVec 64 := (BitVec.setWidth 64 b1)
  let t3 : BitVec 64 := (t2 <<< 8)
  let t4 : BitVec 64 := (t1 + t3)
  let t5 : BitVec 64 := (BitVec.setWidth 64 b2)
  let t6 : BitVec 64 := (t5 <<< 16)
  let t7 : BitVec 64 := (t4 + t6)
  t7

/-! ### the translated source equals the hand-written model, for all inputs -/

theorem moduleReduction_eq (a3u a2 a1 a0 : BitVec 64) : moduleReduction a3u a2 a1 a0 = P.moduleReduction a3u a2 a1 a0 := rfl

theorem permute_eq (v : V4) : permute v = P.permute v := rfl

theorem zipperPair_eq (v1 v0 a b : BitVec 64) : zipperPair v1 v0 a b = (a + P.zipLo v1 v0, b + P.zipHi v1 v0) := rfl

theorem update_eq (s : St) (lanes : V4) : update s lanes = P.update s lanes := by rfl

theorem updateLanes_eq (s : St) (size : Nat) : updateLanes s size = P.updateLanes s size := rfl

theorem newState_eq (key : V4) : newState key = (P.new key).st := rfl

theorem out64_eq (s : St) : out64 s = P.out64 s := rfl
/-- the whole `finalize64`: prologue (shared `finalizeCommon`), the source's round count, the source's output expression -/
theorem finalize64_shape (x : P.State) : P.finalize64 x = out64 (P.finalizeCommon out64Rounds x) := (out64_eq _).symm

theorem out128_eq (s : St) : out128 s = P.out128 s := rfl
/-- the whole `finalize128`: prologue (shared `finalizeCommon`), the source's round count, the source's output expression -/
theorem finalize128_shape (x : P.State) : P.finalize128 x = out128 (P.finalizeCommon out128Rounds x) := (out128_eq _).symm

theorem out256_eq (s : St) : out256 s = P.out256 s := rfl
/-- the whole `finalize256`: prologue (shared `finalizeCommon`), the source's round count, the source's output expression -/
theorem finalize256_shape (x : P.State) : P.finalize256 x = out256 (P.finalizeCommon out256Rounds x) := (out256_eq _).symm

theorem dataToLanes_eq (b0 b1 b2 b3 b4 b5 b6 b7 b8 b9 b10 b11 b12 b13 b14 b15 b16 b17 b18 b19 b20 b21 b22 b23 b24 b25 b26 b27 b28 b29 b30 b31 : BitVec 8) : dataToLanes b0 b1 b2 b3 b4 b5 b6 b7 b8 b9 b10 b11 b12 b13 b14 b15 b16 b17 b18 b19 b20 b21 b22 b23 b24 b25 b26 b27 b28 b29 b30 b31 = P.dataToLanes [b0, b1, b2, b3, b4, b5, b6, b7, b8, b9, b10, b11, b12, b13, b14, b15, b16, b17, b18, b19, b20, b21, b22, b23, b24, b25, b26, b27, b28, b29, b30, b31] := by
  rw [P.dataToLanes_eq_spec]
  rfl

theorem remainder0_eq : remainder0  = P.remainder [] := by
  simp only [P.remainder, List.length] <;> rfl
theorem remainder1_eq (b0 : BitVec 8) : remainder1 b0 = P.remainder [b0] := by
  simp only [P.remainder, List.length] <;> rfl
theorem remainder2_eq (b0 b1 : BitVec 8) : remainder2 b0 b1 = P.remainder [b0, b1] := by
  simp only [P.remainder, List.length] <;> rfl
theorem remainder3_eq (b0 b1 b2 : BitVec 8) : remainder3 b0 b1 b2 = P.remainder [b0, b1, b2] := by
  simp only [P.remainder, List.length] <;> rfl
theorem remainder4_eq (b0 b1 b2 b3 : BitVec 8) : remainder4 b0 b1 b2 b3 = P.remainder [b0, b1, b2, b3] := by
  simp only [P.remainder, List.length] <;> rfl
theorem remainder5_eq (b0 b1 b2 b3 b4 : BitVec 8) : remainder5 b0 b1 b2 b3 b4 = P.remainder [b0, b1, b2, b3, b4] := by
  simp only [P.remainder, List.length] <;> rfl
theorem remainder6_eq (b0 b1 b2 b3 b4 b5 : BitVec 8) : remainder6 b0 b1 b2 b3 b4 b5 = P.remainder [b0, b1, b2, b3, b4, b5] := by
  simp only [P.remainder, List.length] <;> rfl
theorem remainder7_eq (b0 b1 b2 b3 b4 b5 b6 : BitVec 8) : remainder7 b0 b1 b2 b3 b4 b5 b6 = P.remainder [b0, b1, b2, b3, b4, b5, b6] := by
  simp only [P.remainder, List.length] <;> rfl
theorem remainder8_eq (b0 b1 b2 b3 b4 b5 b6 b7 : BitVec 8) : remainder8 b0 b1 b2 b3 b4 b5 b6 b7 = P.remainder [b0, b1, b2, b3, b4, b5, b6, b7] := by
  simp only [P.remainder, List.length] <;> rfl
theorem remainder9_eq (b0 b1 b2 b3 b4 b5 b6 b7 b8 : BitVec 8) : remainder9 b0 b1 b2 b3 b4 b5 b6 b7 b8 = P.remainder [b0, b1, b2, b3, b4, b5, b6, b7, b8] := by
  simp only [P.remainder, List.length] <;> rfl
theorem remainder10_eq (b0 b1 b2 b3 b4 b5 b6 b7 b8 b9 : BitVec 8) : remainder10 b0 b1 b2 b3 b4 b5 b6 b7 b8 b9 = P.remainder [b0, b1, b2, b3, b4, b5, b6, b7, b8, b9] := by
  simp only [P.remainder, List.length] <;> rfl
theorem remainder11_eq (b0 b1 b2 b3 b4 b5 b6 b7 b8 b9 b10 : BitVec 8) : remainder11 b0 b1 b2 b3 b4 b5 b6 b7 b8 b9 b10 = P.remainder [b0, b1, b2, b3, b4, b5, b6, b7, b8, b9, b10] := by
  simp only [P.remainder, List.length] <;> rfl
theorem remainder12_eq (b0 b1 b2 b3 b4 b5 b6 b7 b8 b9 b10 b11 : BitVec 8) : remainder12 b0 b1 b2 b3 b4 b5 b6 b7 b8 b9 b10 b11 = P.remainder [b0, b1, b2, b3, b4, b5, b6, b7, b8, b9, b10, b11] := by
  simp only [P.remainder, List.length] <;> rfl
theorem remainder13_eq (b0 b1 b2 b3 b4 b5 b6 b7 b8 b9 b10 b11 b12 : BitVec 8) : remainder13 b0 b1 b2 b3 b4 b5 b6 b7 b8 b9 b10 b11 b12 = P.remainder [b0, b1, b2, b3, b4, b5, b6, b7, b8, b9, b10, b11, b12] := by
  simp only [P.remainder, List.length] <;> rfl
theorem remainder14_eq (b0 b1 b2 b3 b4 b5 b6 b7 b8 b9 b10 b11 b12 b13 : BitVec 8) : remainder14 b0 b1 b2 b3 b4 b5 b6 b7 b8 b9 b10 b11 b12 b13 = P.remainder [b0, b1, b2, b3, b4, b5, b6, b7, b8, b9, b10, b11, b12, b13] := by
  simp only [P.remainder, List.length] <;> rfl
theorem remainder15_eq (b0 b1 b2 b3 b4 b5 b6 b7 b8 b9 b10 b11 b12 b13 b14 : BitVec 8) : remainder15 b0 b1 b2 b3 b4 b5 b6 b7 b8 b9 b10 b11 b12 b13 b14 = P.remainder [b0, b1, b2, b3, b4, b5, b6, b7, b8, b9, b10, b11, b12, b13, b14] := by
  simp only [P.remainder, List.length] <;> rfl
theorem remainder16_eq (b0 b1 b2 b3 b4 b5 b6 b7 b8 b9 b10 b11 b12 b13 b14 b15 : BitVec 8) : remainder16 b0 b1 b2 b3 b4 b5 b6 b7 b8 b9 b10 b11 b12 b13 b14 b15 = P.remainder [b0, b1, b2, b3, b4, b5, b6, b7, b8, b9, b10, b11, b12, b13, b14, b15] := by
  simp only [P.remainder, List.length] <;> rfl
theorem remainder17_eq (b0 b1 b2 b3 b4 b5 b6 b7 b8 b9 b10 b11 b12 b13 b14 b15 b16 : BitVec 8) : remainder17 b0 b1 b2 b3 b4 b5 b6 b7 b8 b9 b10 b11 b12 b13 b14 b15 b16 = P.remainder [b0, b1, b2, b3, b4, b5, b6, b7, b8, b9, b10, b11, b12, b13, b14, b15, b16] := by
  simp only [P.remainder, List.length] <;> rfl
theorem remainder18_eq (b0 b1 b2 b3 b4 b5 b6 b7 b8 b9 b10 b11 b12 b13 b14 b15 b16 b17 : BitVec 8) : remainder18 b0 b1 b2 b3 b4 b5 b6 b7 b8 b9 b10 b11 b12 b13 b14 b15 b16 b17 = P.remainder [b0, b1, b2, b3, b4, b5, b6, b7, b8, b9, b10, b11, b12, b13, b14, b15, b16, b17] := by
  simp only [P.remainder, List.length] <;> rfl
theorem remainder19_eq (b0 b1 b2 b3 b4 b5 b6 b7 b8 b9 b10 b11 b12 b13 b14 b15 b16 b17 b18 : BitVec 8) : remainder19 b0 b1 b2 b3 b4 b5 b6 b7 b8 b9 b10 b11 b12 b13 b14 b15 b16 b17 b18 = P.remainder [b0, b1, b2, b3, b4, b5, b6, b7, b8, b9, b10, b11, b12, b13, b14, b15, b16, b17, b18] := by
  simp only [P.remainder, List.length] <;> rfl
theorem remainder20_eq (b0 b1 b2 b3 b4 b5 b6 b7 b8 b9 b10 b11 b12 b13 b14 b15 b16 b17 b18 b19 : BitVec 8) : remainder20 b0 b1 b2 b3 b4 b5 b6 b7 b8 b9 b10 b11 b12 b13 b14 b15 b16 b17 b18 b19 = P.remainder [b0, b1, b2, b3, b4, b5, b6, b7, b8, b9, b10, b11, b12, b13, b14, b15, b16, b17, b18, b19] := by
  simp only [P.remainder, List.length] <;> rfl
theorem remainder21_eq (b0 b1 b2 b3 b4 b5 b6 b7 b8 b9 b10 b11 b12 b13 b14 b15 b16 b17 b18 b19 b20 : BitVec 8) : remainder21 b0 b1 b2 b3 b4 b5 b6 b7 b8 b9 b10 b11 b12 b13 b14 b15 b16 b17 b18 b19 b20 = P.remainder [b0, b1, b2, b3, b4, b5, b6, b7, b8, b9, b10, b11, b12, b13, b14, b15, b16, b17, b18, b19, b20] := by
  simp only [P.remainder, List.length] <;> rfl
theorem remainder22_eq (b0 b1 b2 b3 b4 b5 b6 b7 b8 b9 b10 b11 b12 b13 b14 b15 b16 b17 b18 b19 b20 b21 : BitVec 8) : remainder22 b0 b1 b2 b3 b4 b5 b6 b7 b8 b9 b10 b11 b12 b13 b14 b15 b16 b17 b18 b19 b20 b21 = P.remainder [b0, b1, b2, b3, b4, b5, b6, b7, b8, b9, b10, b11, b12, b13, b14, b15, b16, b17, b18, b19, b20, b21] := by
  simp only [P.remainder, List.length] <;> rfl
theorem remainder23_eq (b0 b1 b2 b3 b4 b5 b6 b7 b8 b9 b10 b11 b12 b13 b14 b15 b16 b17 b18 b19 b20 b21 b22 : BitVec 8) : remainder23 b0 b1 b2 b3 b4 b5 b6 b7 b8 b9 b10 b11 b12 b13 b14 b15 b16 b17 b18 b19 b20 b21 b22 = P.remainder [b0, b1, b2, b3, b4, b5, b6, b7, b8, b9, b10, b11, b12, b13, b14, b15, b16, b17, b18, b19, b20, b21, b22] := by
  simp only [P.remainder, List.length] <;> rfl
theorem remainder24_eq (b0 b1 b2 b3 b4 b5 b6 b7 b8 b9 b10 b11 b12 b13 b14 b15 b16 b17 b18 b19 b20 b21 b22 b23 : BitVec 8) : remainder24 b0 b1 b2 b3 b4 b5 b6 b7 b8 b9 b10 b11 b12 b13 b14 b15 b16 b17 b18 b19 b20 b21 b22 b23 = P.remainder [b0, b1, b2, b3, b4, b5, b6, b7, b8, b9, b10, b11, b12, b13, b14, b15, b16, b17, b18, b19, b20, b21, b22, b23] := by
  simp only [P.remainder, List.length] <;> rfl
theorem remainder25_eq (b0 b1 b2 b3 b4 b5 b6 b7 b8 b9 b10 b11 b12 b13 b14 b15 b16 b17 b18 b19 b20 b21 b22 b23 b24 : BitVec 8) : remainder25 b0 b1 b2 b3 b4 b5 b6 b7 b8 b9 b10 b11 b12 b13 b14 b15 b16 b17 b18 b19 b20 b21 b22 b23 b24 = P.remainder [b0, b1, b2, b3, b4, b5, b6, b7, b8, b9, b10, b11, b12, b13, b14, b15, b16, b17, b18, b19, b20, b21, b22, b23, b24] := by
  simp only [P.remainder, List.length] <;> rfl
theorem remainder26_eq (b0 b1 b2 b3 b4 b5 b6 b7 b8 b9 b10 b11 b12 b13 b14 b15 b16 b17 b18 b19 b20 b21 b22 b23 b24 b25 : BitVec 8) : remainder26 b0 b1 b2 b3 b4 b5 b6 b7 b8 b9 b10 b11 b12 b13 b14 b15 b16 b17 b18 b19 b20 b21 b22 b23 b24 b25 = P.remainder [b0, b1, b2, b3, b4, b5, b6, b7, b8, b9, b10, b11, b12, b13, b14, b15, b16, b17, b18, b19, b20, b21, b22, b23, b24, b25] := by
  simp only [P.remainder, List.length] <;> rfl
theorem remainder27_eq (b0 b1 b2 b3 b4 b5 b6 b7 b8 b9 b10 b11 b12 b13 b14 b15 b16 b17 b18 b19 b20 b21 b22 b23 b24 b25 b26 : BitVec 8) : remainder27 b0 b1 b2 b3 b4 b5 b6 b7 b8 b9 b10 b11 b12 b13 b14 b15 b16 b17 b18 b19 b20 b21 b22 b23 b24 b25 b26 = P.remainder [b0, b1, b2, b3, b4, b5, b6, b7, b8, b9, b10, b11, b12, b13, b14, b15, b16, b17, b18, b19, b20, b21, b22, b23, b24, b25, b26] := by
  simp only [P.remainder, List.length] <;> rfl
theorem remainder28_eq (b0 b1 b2 b3 b4 b5 b6 b7 b8 b9 b10 b11 b12 b13 b14 b15 b16 b17 b18 b19 b20 b21 b22 b23 b24 b25 b26 b27 : BitVec 8) : remainder28 b0 b1 b2 b3 b4 b5 b6 b7 b8 b9 b10 b11 b12 b13 b14 b15 b16 b17 b18 b19 b20 b21 b22 b23 b24 b25 b26 b27 = P.remainder [b0, b1, b2, b3, b4, b5, b6, b7, b8, b9, b10, b11, b12, b13, b14, b15, b16, b17, b18, b19, b20, b21, b22, b23, b24, b25, b26, b27] := by
  simp only [P.remainder, List.length] <;> rfl
theorem remainder29_eq (b0 b1 b2 b3 b4 b5 b6 b7 b8 b9 b10 b11 b12 b13 b14 b15 b16 b17 b18 b19 b20 b21 b22 b23 b24 b25 b26 b27 b28 : BitVec 8) : remainder29 b0 b1 b2 b3 b4 b5 b6 b7 b8 b9 b10 b11 b12 b13 b14 b15 b16 b17 b18 b19 b20 b21 b22 b23 b24 b25 b26 b27 b28 = P.remainder [b0, b1, b2, b3, b4, b5, b6, b7, b8, b9, b10, b11, b12, b13, b14, b15, b16, b17, b18, b19, b20, b21, b22, b23, b24, b25, b26, b27, b28] := by
  simp only [P.remainder, List.length] <;> rfl
theorem remainder30_eq (b0 b1 b2 b3 b4 b5 b6 b7 b8 b9 b10 b11 b12 b13 b14 b15 b16 b17 b18 b19 b20 b21 b22 b23 b24 b25 b26 b27 b28 b29 : BitVec 8) : remainder30 b0 b1 b2 b3 b4 b5 b6 b7 b8 b9 b10 b11 b12 b13 b14 b15 b16 b17 b18 b19 b20 b21 b22 b23 b24 b25 b26 b27 b28 b29 = P.remainder [b0, b1, b2, b3, b4, b5, b6, b7, b8, b9, b10, b11, b12, b13, b14, b15, b16, b17, b18, b19, b20, b21, b22, b23, b24, b25, b26, b27, b28, b29] := by
  simp only [P.remainder, List.length] <;> rfl
theorem remainder31_eq (b0 b1 b2 b3 b4 b5 b6 b7 b8 b9 b10 b11 b12 b13 b14 b15 b16 b17 b18 b19 b20 b21 b22 b23 b24 b25 b26 b27 b28 b29 b30 : BitVec 8) : remainder31 b0 b1 b2 b3 b4 b5 b6 b7 b8 b9 b10 b11 b12 b13 b14 b15 b16 b17 b18 b19 b20 b21 b22 b23 b24 b25 b26 b27 b28 b29 b30 = P.remainder [b0, b1, b2, b3, b4, b5, b6, b7, b8, b9, b10, b11, b12, b13, b14, b15, b16, b17, b18, b19, b20, b21, b22, b23, b24, b25, b26, b27, b28, b29, b30] := by
  simp only [P.remainder, List.length] <;> rfl
theorem remainder32_eq (b0 b1 b2 b3 b4 b5 b6 b7 b8 b9 b10 b11 b12 b13 b14 b15 b16 b17 b18 b19 b20 b21 b22 b23 b24 b25 b26 b27 b28 b29 b30 b31 : BitVec 8) : remainder32 b0 b1 b2 b3 b4 b5 b6 b7 b8 b9 b10 b11 b12 b13 b14 b15 b16 b17 b18 b19 b20 b21 b22 b23 b24 b25 b26 b27 b28 b29 b30 b31 = P.remainder [b0, b1, b2, b3, b4, b5, b6, b7, b8, b9, b10, b11, b12, b13, b14, b15, b16, b17, b18, b19, b20, b21, b22, b23, b24, b25, b26, b27, b28, b29, b30, b31] := by
  simp only [P.remainder, List.length] <;> rfl

theorem updateRemainder1_eq (s : St) (b0 b1 b2 b3 b4 b5 b6 b7 b8 b9 b10 b11 b12 b13 b14 b15 b16 b17 b18 b19 b20 b21 b22 b23 b24 b25 b26 b27 b28 b29 b30 b31 : BitVec 8) : updateRemainder1 s b0 b1 b2 b3 b4 b5 b6 b7 b8 b9 b10 b11 b12 b13 b14 b15 b16 b17 b18 b19 b20 b21 b22 b23 b24 b25 b26 b27 b28 b29 b30 b31 = P.updateRemainder ⟨s, ⟨[b0, b1, b2, b3, b4, b5, b6, b7, b8, b9, b10, b11, b12, b13, b14, b15, b16, b17, b18, b19, b20, b21, b22, b23, b24, b25, b26, b27, b28, b29, b30, b31], 1⟩⟩ := by
  show _ = P.update (P.updateLanes s 1) (P.dataToLanes (P.remainder [b0]))
  rw [← remainder1_eq, ← update_eq, ← updateLanes_eq]; unfold updateRemainder1 remainder1; rw [dataToLanes_eq]
theorem updateRemainder2_eq (s : St) (b0 b1 b2 b3 b4 b5 b6 b7 b8 b9 b10 b11 b12 b13 b14 b15 b16 b17 b18 b19 b20 b21 b22 b23 b24 b25 b26 b27 b28 b29 b30 b31 : BitVec 8) : updateRemainder2 s b0 b1 b2 b3 b4 b5 b6 b7 b8 b9 b10 b11 b12 b13 b14 b15 b16 b17 b18 b19 b20 b21 b22 b23 b24 b25 b26 b27 b28 b29 b30 b31 = P.updateRemainder ⟨s, ⟨[b0, b1, b2, b3, b4, b5, b6, b7, b8, b9, b10, b11, b12, b13, b14, b15, b16, b17, b18, b19, b20, b21, b22, b23, b24, b25, b26, b27, b28, b29, b30, b31], 2⟩⟩ := by
  show _ = P.update (P.updateLanes s 2) (P.dataToLanes (P.remainder [b0, b1]))
  rw [← remainder2_eq, ← update_eq, ← updateLanes_eq]; unfold updateRemainder2 remainder2; rw [dataToLanes_eq]
theorem updateRemainder3_eq (s : St) (b0 b1 b2 b3 b4 b5 b6 b7 b8 b9 b10 b11 b12 b13 b14 b15 b16 b17 b18 b19 b20 b21 b22 b23 b24 b25 b26 b27 b28 b29 b30 b31 : BitVec 8) : updateRemainder3 s b0 b1 b2 b3 b4 b5 b6 b7 b8 b9 b10 b11 b12 b13 b14 b15 b16 b17 b18 b19 b20 b21 b22 b23 b24 b25 b26 b27 b28 b29 b30 b31 = P.updateRemainder ⟨s, ⟨[b0, b1, b2, b3, b4, b5, b6, b7, b8, b9, b10, b11, b12, b13, b14, b15, b16, b17, b18, b19, b20, b21, b22, b23, b24, b25, b26, b27, b28, b29, b30, b31], 3⟩⟩ := by
  show _ = P.update (P.updateLanes s 3) (P.dataToLanes (P.remainder [b0, b1, b2]))
  rw [← remainder3_eq, ← update_eq, ← updateLanes_eq]; unfold updateRemainder3 remainder3; rw [dataToLanes_eq]
theorem updateRemainder4_eq (s : St) (b0 b1 b2 b3 b4 b5 b6 b7 b8 b9 b10 b11 b12 b13 b14 b15 b16 b17 b18 b19 b20 b21 b22 b23 b24 b25 b26 b27 b28 b29 b30 b31 : BitVec 8) : updateRemainder4 s b0 b1 b2 b3 b4 b5 b6 b7 b8 b9 b10 b11 b12 b13 b14 b15 b16 b17 b18 b19 b20 b21 b22 b23 b24 b25 b26 b27 b28 b29 b30 b31 = P.updateRemainder ⟨s, ⟨[b0, b1, b2, b3, b4, b5, b6, b7, b8, b9, b10, b11, b12, b13, b14, b15, b16, b17, b18, b19, b20, b21, b22, b23, b24, b25, b26, b27, b28, b29, b30, b31], 4⟩⟩ := by
  show _ = P.update (P.updateLanes s 4) (P.dataToLanes (P.remainder [b0, b1, b2, b3]))
  rw [← remainder4_eq, ← update_eq, ← updateLanes_eq]; unfold updateRemainder4 remainder4; rw [dataToLanes_eq]
theorem updateRemainder5_eq (s : St) (b0 b1 b2 b3 b4 b5 b6 b7 b8 b9 b10 b11 b12 b13 b14 b15 b16 b17 b18 b19 b20 b21 b22 b23 b24 b25 b26 b27 b28 b29 b30 b31 : BitVec 8) : updateRemainder5 s b0 b1 b2 b3 b4 b5 b6 b7 b8 b9 b10 b11 b12 b13 b14 b15 b16 b17 b18 b19 b20 b21 b22 b23 b24 b25 b26 b27 b28 b29 b30 b31 = P.updateRemainder ⟨s, ⟨[b0, b1, b2, b3, b4, b5, b6, b7, b8, b9, b10, b11, b12, b13, b14, b15, b16, b17, b18, b19, b20, b21, b22, b23, b24, b25, b26, b27, b28, b29, b30, b31], 5⟩⟩ := by
  show _ = P.update (P.updateLanes s 5) (P.dataToLanes (P.remainder [b0, b1, b2, b3, b4]))
  rw [← remainder5_eq, ← update_eq, ← updateLanes_eq]; unfold updateRemainder5 remainder5; rw [dataToLanes_eq]
theorem updateRemainder6_eq (s : St) (b0 b1 b2 b3 b4 b5 b6 b7 b8 b9 b10 b11 b12 b13 b14 b15 b16 b17 b18 b19 b20 b21 b22 b23 b24 b25 b26 b27 b28 b29 b30 b31 : BitVec 8) : updateRemainder6 s b0 b1 b2 b3 b4 b5 b6 b7 b8 b9 b10 b11 b12 b13 b14 b15 b16 b17 b18 b19 b20 b21 b22 b23 b24 b25 b26 b27 b28 b29 b30 b31 = P.updateRemainder ⟨s, ⟨[b0, b1, b2, b3, b4, b5, b6, b7, b8, b9, b10, b11, b12, b13, b14, b15, b16, b17, b18, b19, b20, b21, b22, b23, b24, b25, b26, b27, b28, b29, b30, b31], 6⟩⟩ := by
  show _ = P.update (P.updateLanes s 6) (P.dataToLanes (P.remainder [b0, b1, b2, b3, b4, b5]))
  rw [← remainder6_eq, ← update_eq, ← updateLanes_eq]; unfold updateRemainder6 remainder6; rw [dataToLanes_eq]
theorem updateRemainder7_eq (s : St) (b0 b1 b2 b3 b4 b5 b6 b7 b8 b9 b10 b11 b12 b13 b14 b15 b16 b17 b18 b19 b20 b21 b22 b23 b24 b25 b26 b27 b28 b29 b30 b31 : BitVec 8) : updateRemainder7 s b0 b1 b2 b3 b4 b5 b6 b7 b8 b9 b10 b11 b12 b13 b14 b15 b16 b17 b18 b19 b20 b21 b22 b23 b24 b25 b26 b27 b28 b29 b30 b31 = P.updateRemainder ⟨s, ⟨[b0, b1, b2, b3, b4, b5, b6, b7, b8, b9, b10, b11, b12, b13, b14, b15, b16, b17, b18, b19, b20, b21, b22, b23, b24, b25, b26, b27, b28, b29, b30, b31], 7⟩⟩ := by
  show _ = P.update (P.updateLanes s 7) (P.dataToLanes (P.remainder [b0, b1, b2, b3, b4, b5, b6]))
  rw [← remainder7_eq, ← update_eq, ← updateLanes_eq]; unfold updateRemainder7 remainder7; rw [dataToLanes_eq]
theorem updateRemainder8_eq (s : St) (b0 b1 b2 b3 b4 b5 b6 b7 b8 b9 b10 b11 b12 b13 b14 b15 b16 b17 b18 b19 b20 b21 b22 b23 b24 b25 b26 b27 b28 b29 b30 b31 : BitVec 8) : updateRemainder8 s b0 b1 b2 b3 b4 b5 b6 b7 b8 b9 b10 b11 b12 b13 b14 b15 b16 b17 b18 b19 b20 b21 b22 b23 b24 b25 b26 b27 b28 b29 b30 b31 = P.updateRemainder ⟨s, ⟨[b0, b1, b2, b3, b4, b5, b6, b7, b8, b9, b10, b11, b12, b13, b14, b15, b16, b17, b18, b19, b20, b21, b22, b23, b24, b25, b26, b27, b28, b29, b30, b31], 8⟩⟩ := by
  show _ = P.update (P.updateLanes s 8) (P.dataToLanes (P.remainder [b0, b1, b2, b3, b4, b5, b6, b7]))
  rw [← remainder8_eq, ← update_eq, ← updateLanes_eq]; unfold updateRemainder8 remainder8; rw [dataToLanes_eq]
theorem updateRemainder9_eq (s : St) (b0 b1 b2 b3 b4 b5 b6 b7 b8 b9 b10 b11 b12 b13 b14 b15 b16 b17 b18 b19 b20 b21 b22 b23 b24 b25 b26 b27 b28 b29 b30 b31 : BitVec 8) : updateRemainder9 s b0 b1 b2 b3 b4 b5 b6 b7 b8 b9 b10 b11 b12 b13 b14 b15 b16 b17 b18 b19 b20 b21 b22 b23 b24 b25 b26 b27 b28 b29 b30 b31 = P.updateRemainder ⟨s, ⟨[b0, b1, b2, b3, b4, b5, b6, b7, b8, b9, b10, b11, b12, b13, b14, b15, b16, b17, b18, b19, b20, b21, b22, b23, b24, b25, b26, b27, b28, b29, b30, b31], 9⟩⟩ := by
  show _ = P.update (P.updateLanes s 9) (P.dataToLanes (P.remainder [b0, b1, b2, b3, b4, b5, b6, b7, b8]))
  rw [← remainder9_eq, ← update_eq, ← updateLanes_eq]; unfold updateRemainder9 remainder9; rw [dataToLanes_eq]
theorem updateRemainder10_eq (s : St) (b0 b1 b2 b3 b4 b5 b6 b7 b8 b9 b10 b11 b12 b13 b14 b15 b16 b17 b18 b19 b20 b21 b22 b23 b24 b25 b26 b27 b28 b29 b30 b31 : BitVec 8) : updateRemainder10 s b0 b1 b2 b3 b4 b5 b6 b7 b8 b9 b10 b11 b12 b13 b14 b15 b16 b17 b18 b19 b20 b21 b22 b23 b24 b25 b26 b27 b28 b29 b30 b31 = P.updateRemainder ⟨s, ⟨[b0, b1, b2, b3, b4, b5, b6, b7, b8, b9, b10, b11, b12, b13, b14, b15, b16, b17, b18, b19, b20, b21, b22, b23, b24, b25, b26, b27, b28, b29, b30, b31], 10⟩⟩ := by
  show _ = P.update (P.updateLanes s 10) (P.dataToLanes (P.remainder [b0, b1, b2, b3, b4, b5, b6, b7, b8, b9]))
  rw [← remainder10_eq, ← update_eq, ← updateLanes_eq]; unfold updateRemainder10 remainder10; rw [dataToLanes_eq]
theorem updateRemainder11_eq (s : St) (b0 b1 b2 b3 b4 b5 b6 b7 b8 b9 b10 b11 b12 b13 b14 b15 b16 b17 b18 b19 b20 b21 b22 b23 b24 b25 b26 b27 b28 b29 b30 b31 : BitVec 8) : updateRemainder11 s b0 b1 b2 b3 b4 b5 b6 b7 b8 b9 b10 b11 b12 b13 b14 b15 b16 b17 b18 b19 b20 b21 b22 b23 b24 b25 b26 b27 b28 b29 b30 b31 = P.updateRemainder ⟨s, ⟨[b0, b1, b2, b3, b4, b5, b6, b7, b8, b9, b10, b11, b12, b13, b14, b15, b16, b17, b18, b19, b20, b21, b22, b23, b24, b25, b26, b27, b28, b29, b30, b31], 11⟩⟩ := by
  show _ = P.update (P.updateLanes s 11) (P.dataToLanes (P.remainder [b0, b1, b2, b3, b4, b5, b6, b7, b8, b9, b10]))
  rw [← remainder11_eq, ← update_eq, ← updateLanes_eq]; unfold updateRemainder11 remainder11; rw [dataToLanes_eq]
theorem updateRemainder12_eq (s : St) (b0 b1 b2 b3 b4 b5 b6 b7 b8 b9 b10 b11 b12 b13 b14 b15 b16 b17 b18 b19 b20 b21 b22 b23 b24 b25 b26 b27 b28 b29 b30 b31 : BitVec 8) : updateRemainder12 s b0 b1 b2 b3 b4 b5 b6 b7 b8 b9 b10 b11 b12 b13 b14 b15 b16 b17 b18 b19 b20 b21 b22 b23 b24 b25 b26 b27 b28 b29 b30 b31 = P.updateRemainder ⟨s, ⟨[b0, b1, b2, b3, b4, b5, b6, b7, b8, b9, b10, b11, b12, b13, b14, b15, b16, b17, b18, b19, b20, b21, b22, b23, b24, b25, b26, b27, b28, b29, b30, b31], 12⟩⟩ := by
  show _ = P.update (P.updateLanes s 12) (P.dataToLanes (P.remainder [b0, b1, b2, b3, b4, b5, b6, b7, b8, b9, b10, b11]))
  rw [← remainder12_eq, ← update_eq, ← updateLanes_eq]; unfold updateRemainder12 remainder12; rw [dataToLanes_eq]
theorem updateRemainder13_eq (s : St) (b0 b1 b2 b3 b4 b5 b6 b7 b8 b9 b10 b11 b12 b13 b14 b15 b16 b17 b18 b19 b20 b21 b22 b23 b24 b25 b26 b27 b28 b29 b30 b31 : BitVec 8) : updateRemainder13 s b0 b1 b2 b3 b4 b5 b6 b7 b8 b9 b10 b11 b12 b13 b14 b15 b16 b17 b18 b19 b20 b21 b22 b23 b24 b25 b26 b27 b28 b29 b30 b31 = P.updateRemainder ⟨s, ⟨[b0, b1, b2, b3, b4, b5, b6, b7, b8, b9, b10, b11, b12, b13, b14, b15, b16, b17, b18, b19, b20, b21, b22, b23, b24, b25, b26, b27, b28, b29, b30, b31], 13⟩⟩ := by
  show _ = P.update (P.updateLanes s 13) (P.dataToLanes (P.remainder [b0, b1, b2, b3, b4, b5, b6, b7, b8, b9, b10, b11, b12]))
  rw [← remainder13_eq, ← update_eq, ← updateLanes_eq]; unfold updateRemainder13 remainder13; rw [dataToLanes_eq]
theorem updateRemainder14_eq (s : St) (b0 b1 b2 b3 b4 b5 b6 b7 b8 b9 b10 b11 b12 b13 b14 b15 b16 b17 b18 b19 b20 b21 b22 b23 b24 b25 b26 b27 b28 b29 b30 b31 : BitVec 8) : updateRemainder14 s b0 b1 b2 b3 b4 b5 b6 b7 b8 b9 b10 b11 b12 b13 b14 b15 b16 b17 b18 b19 b20 b21 b22 b23 b24 b25 b26 b27 b28 b29 b30 b31 = P.updateRemainder ⟨s, ⟨[b0, b1, b2, b3, b4, b5, b6, b7, b8, b9, b10, b11, b12, b13, b14, b15, b16, b17, b18, b19, b20, b21, b22, b23, b24, b25, b26, b27, b28, b29, b30, b31], 14⟩⟩ := by
  show _ = P.update (P.updateLanes s 14) (P.dataToLanes (P.remainder [b0, b1, b2, b3, b4, b5, b6, b7, b8, b9, b10, b11, b12, b13]))
  rw [← remainder14_eq, ← update_eq, ← updateLanes_eq]; unfold updateRemainder14 remainder14; rw [dataToLanes_eq]
theorem updateRemainder15_eq (s : St) (b0 b1 b2 b3 b4 b5 b6 b7 b8 b9 b10 b11 b12 b13 b14 b15 b16 b17 b18 b19 b20 b21 b22 b23 b24 b25 b26 b27 b28 b29 b30 b31 : BitVec 8) : updateRemainder15 s b0 b1 b2 b3 b4 b5 b6 b7 b8 b9 b10 b11 b12 b13 b14 b15 b16 b17 b18 b19 b20 b21 b22 b23 b24 b25 b26 b27 b28 b29 b30 b31 = P.updateRemainder ⟨s, ⟨[b0, b1, b2, b3, b4, b5, b6, b7, b8, b9, b10, b11, b12, b13, b14, b15, b16, b17, b18, b19, b20, b21, b22, b23, b24, b25, b26, b27, b28, b29, b30, b31], 15⟩⟩ := by
  show _ = P.update (P.updateLanes s 15) (P.dataToLanes (P.remainder [b0, b1, b2, b3, b4, b5, b6, b7, b8, b9, b10, b11, b12, b13, b14]))
  rw [← remainder15_eq, ← update_eq, ← updateLanes_eq]; unfold updateRemainder15 remainder15; rw [dataToLanes_eq]
theorem updateRemainder16_eq (s : St) (b0 b1 b2 b3 b4 b5 b6 b7 b8 b9 b10 b11 b12 b13 b14 b15 b16 b17 b18 b19 b20 b21 b22 b23 b24 b25 b26 b27 b28 b29 b30 b31 : BitVec 8) : updateRemainder16 s b0 b1 b2 b3 b4 b5 b6 b7 b8 b9 b10 b11 b12 b13 b14 b15 b16 b17 b18 b19 b20 b21 b22 b23 b24 b25 b26 b27 b28 b29 b30 b31 = P.updateRemainder ⟨s, ⟨[b0, b1, b2, b3, b4, b5, b6, b7, b8, b9, b10, b11, b12, b13, b14, b15, b16, b17, b18, b19, b20, b21, b22, b23, b24, b25, b26, b27, b28, b29, b30, b31], 16⟩⟩ := by
  show _ = P.update (P.updateLanes s 16) (P.dataToLanes (P.remainder [b0, b1, b2, b3, b4, b5, b6, b7, b8, b9, b10, b11, b12, b13, b14, b15]))
  rw [← remainder16_eq, ← update_eq, ← updateLanes_eq]; unfold updateRemainder16 remainder16; rw [dataToLanes_eq]
theorem updateRemainder17_eq (s : St) (b0 b1 b2 b3 b4 b5 b6 b7 b8 b9 b10 b11 b12 b13 b14 b15 b16 b17 b18 b19 b20 b21 b22 b23 b24 b25 b26 b27 b28 b29 b30 b31 : BitVec 8) : updateRemainder17 s b0 b1 b2 b3 b4 b5 b6 b7 b8 b9 b10 b11 b12 b13 b14 b15 b16 b17 b18 b19 b20 b21 b22 b23 b24 b25 b26 b27 b28 b29 b30 b31 = P.updateRemainder ⟨s, ⟨[b0, b1, b2, b3, b4, b5, b6, b7, b8, b9, b10, b11, b12, b13, b14, b15, b16, b17, b18, b19, b20, b21, b22, b23, b24, b25, b26, b27, b28, b29, b30, b31], 17⟩⟩ := by
  show _ = P.update (P.updateLanes s 17) (P.dataToLanes (P.remainder [b0, b1, b2, b3, b4, b5, b6, b7, b8, b9, b10, b11, b12, b13, b14, b15, b16]))
  rw [← remainder17_eq, ← update_eq, ← updateLanes_eq]; unfold updateRemainder17 remainder17; rw [dataToLanes_eq]
theorem updateRemainder18_eq (s : St) (b0 b1 b2 b3 b4 b5 b6 b7 b8 b9 b10 b11 b12 b13 b14 b15 b16 b17 b18 b19 b20 b21 b22 b23 b24 b25 b26 b27 b28 b29 b30 b31 : BitVec 8) : updateRemainder18 s b0 b1 b2 b3 b4 b5 b6 b7 b8 b9 b10 b11 b12 b13 b14 b15 b16 b17 b18 b19 b20 b21 b22 b23 b24 b25 b26 b27 b28 b29 b30 b31 = P.updateRemainder ⟨s, ⟨[b0, b1, b2, b3, b4, b5, b6, b7, b8, b9, b10, b11, b12, b13, b14, b15, b16, b17, b18, b19, b20, b21, b22, b23, b24, b25, b26, b27, b28, b29, b30, b31], 18⟩⟩ := by
  show _ = P.update (P.updateLanes s 18) (P.dataToLanes (P.remainder [b0, b1, b2, b3, b4, b5, b6, b7, b8, b9, b10, b11, b12, b13, b14, b15, b16, b17]))
  rw [← remainder18_eq, ← update_eq, ← updateLanes_eq]; unfold updateRemainder18 remainder18; rw [dataToLanes_eq]
theorem updateRemainder19_eq (s : St) (b0 b1 b2 b3 b4 b5 b6 b7 b8 b9 b10 b11 b12 b13 b14 b15 b16 b17 b18 b19 b20 b21 b22 b23 b24 b25 b26 b27 b28 b29 b30 b31 : BitVec 8) : updateRemainder19 s b0 b1 b2 b3 b4 b5 b6 b7 b8 b9 b10 b11 b12 b13 b14 b15 b16 b17 b18 b19 b20 b21 b22 b23 b24 b25 b26 b27 b28 b29 b30 b31 = P.updateRemainder ⟨s, ⟨[b0, b1, b2, b3, b4, b5, b6, b7, b8, b9, b10, b11, b12, b13, b14, b15, b16, b17, b18, b19, b20, b21, b22, b23, b24, b25, b26, b27, b28, b29, b30, b31], 19⟩⟩ := by
  show _ = P.update (P.updateLanes s 19) (P.dataToLanes (P.remainder [b0, b1, b2, b3, b4, b5, b6, b7, b8, b9, b10, b11, b12, b13, b14, b15, b16, b17, b18]))
  rw [← remainder19_eq, ← update_eq, ← updateLanes_eq]; unfold updateRemainder19 remainder19; rw [dataToLanes_eq]
theorem updateRemainder20_eq (s : St) (b0 b1 b2 b3 b4 b5 b6 b7 b8 b9 b10 b11 b12 b13 b14 b15 b16 b17 b18 b19 b20 b21 b22 b23 b24 b25 b26 b27 b28 b29 b30 b31 : BitVec 8) : updateRemainder20 s b0 b1 b2 b3 b4 b5 b6 b7 b8 b9 b10 b11 b12 b13 b14 b15 b16 b17 b18 b19 b20 b21 b22 b23 b24 b25 b26 b27 b28 b29 b30 b31 = P.updateRemainder ⟨s, ⟨[b0, b1, b2, b3, b4, b5, b6, b7, b8, b9, b10, b11, b12, b13, b14, b15, b16, b17, b18, b19, b20, b21, b22, b23, b24, b25, b26, b27, b28, b29, b30, b31], 20⟩⟩ := by
  show _ = P.update (P.updateLanes s 20) (P.dataToLanes (P.remainder [b0, b1, b2, b3, b4, b5, b6, b7, b8, b9, b10, b11, b12, b13, b14, b15, b16, b17, b18, b19]))
  rw [← remainder20_eq, ← update_eq, ← updateLanes_eq]; unfold updateRemainder20 remainder20; rw [dataToLanes_eq]
theorem updateRemainder21_eq (s : St) (b0 b1 b2 b3 b4 b5 b6 b7 b8 b9 b10 b11 b12 b13 b14 b15 b16 b17 b18 b19 b20 b21 b22 b23 b24 b25 b26 b27 b28 b29 b30 b31 : BitVec 8) : updateRemainder21 s b0 b1 b2 b3 b4 b5 b6 b7 b8 b9 b10 b11 b12 b13 b14 b15 b16 b17 b18 b19 b20 b21 b22 b23 b24 b25 b26 b27 b28 b29 b30 b31 = P.updateRemainder ⟨s, ⟨[b0, b1, b2, b3, b4, b5, b6, b7, b8, b9, b10, b11, b12, b13, b14, b15, b16, b17, b18, b19, b20, b21, b22, b23, b24, b25, b26, b27, b28, b29, b30, b31], 21⟩⟩ := by
  show _ = P.update (P.updateLanes s 21) (P.dataToLanes (P.remainder [b0, b1, b2, b3, b4, b5, b6, b7, b8, b9, b10, b11, b12, b13, b14, b15, b16, b17, b18, b19, b20]))
  rw [← remainder21_eq, ← update_eq, ← updateLanes_eq]; unfold updateRemainder21 remainder21; rw [dataToLanes_eq]
theorem updateRemainder22_eq (s : St) (b0 b1 b2 b3 b4 b5 b6 b7 b8 b9 b10 b11 b12 b13 b14 b15 b16 b17 b18 b19 b20 b21 b22 b23 b24 b25 b26 b27 b28 b29 b30 b31 : BitVec 8) : updateRemainder22 s b0 b1 b2 b3 b4 b5 b6 b7 b8 b9 b10 b11 b12 b13 b14 b15 b16 b17 b18 b19 b20 b21 b22 b23 b24 b25 b26 b27 b28 b29 b30 b31 = P.updateRemainder ⟨s, ⟨[b0, b1, b2, b3, b4, b5, b6, b7, b8, b9, b10, b11, b12, b13, b14, b15, b16, b17, b18, b19, b20, b21, b22, b23, b24, b25, b26, b27, b28, b29, b30, b31], 22⟩⟩ := by
  show _ = P.update (P.updateLanes s 22) (P.dataToLanes (P.remainder [b0, b1, b2, b3, b4, b5, b6, b7, b8, b9, b10, b11, b12, b13, b14, b15, b16, b17, b18, b19, b20, b21]))
  rw [← remainder22_eq, ← update_eq, ← updateLanes_eq]; unfold updateRemainder22 remainder22; rw [dataToLanes_eq]
theorem updateRemainder23_eq (s : St) (b0 b1 b2 b3 b4 b5 b6 b7 b8 b9 b10 b11 b12 b13 b14 b15 b16 b17 b18 b19 b20 b21 b22 b23 b24 b25 b26 b27 b28 b29 b30 b31 : BitVec 8) : updateRemainder23 s b0 b1 b2 b3 b4 b5 b6 b7 b8 b9 b10 b11 b12 b13 b14 b15 b16 b17 b18 b19 b20 b21 b22 b23 b24 b25 b26 b27 b28 b29 b30 b31 = P.updateRemainder ⟨s, ⟨[b0, b1, b2, b3, b4, b5, b6, b7, b8, b9, b10, b11, b12, b13, b14, b15, b16, b17, b18, b19, b20, b21, b22, b23, b24, b25, b26, b27, b28, b29, b30, b31], 23⟩⟩ := by
  show _ = P.update (P.updateLanes s 23) (P.dataToLanes (P.remainder [b0, b1, b2, b3, b4, b5, b6, b7, b8, b9, b10, b11, b12, b13, b14, b15, b16, b17, b18, b19, b20, b21, b22]))
  rw [← remainder23_eq, ← update_eq, ← updateLanes_eq]; unfold updateRemainder23 remainder23; rw [dataToLanes_eq]
theorem updateRemainder24_eq (s : St) (b0 b1 b2 b3 b4 b5 b6 b7 b8 b9 b10 b11 b12 b13 b14 b15 b16 b17 b18 b19 b20 b21 b22 b23 b24 b25 b26 b27 b28 b29 b30 b31 : BitVec 8) : updateRemainder24 s b0 b1 b2 b3 b4 b5 b6 b7 b8 b9 b10 b11 b12 b13 b14 b15 b16 b17 b18 b19 b20 b21 b22 b23 b24 b25 b26 b27 b28 b29 b30 b31 = P.updateRemainder ⟨s, ⟨[b0, b1, b2, b3, b4, b5, b6, b7, b8, b9, b10, b11, b12, b13, b14, b15, b16, b17, b18, b19, b20, b21, b22, b23, b24, b25, b26, b27, b28, b29, b30, b31], 24⟩⟩ := by
  show _ = P.update (P.updateLanes s 24) (P.dataToLanes (P.remainder [b0, b1, b2, b3, b4, b5, b6, b7, b8, b9, b10, b11, b12, b13, b14, b15, b16, b17, b18, b19, b20, b21, b22, b23]))
  rw [← remainder24_eq, ← update_eq, ← updateLanes_eq]; unfold updateRemainder24 remainder24; rw [dataToLanes_eq]
theorem updateRemainder25_eq (s : St) (b0 b1 b2 b3 b4 b5 b6 b7 b8 b9 b10 b11 b12 b13 b14 b15 b16 b17 b18 b19 b20 b21 b22 b23 b24 b25 b26 b27 b28 b29 b30 b31 : BitVec 8) : updateRemainder25 s b0 b1 b2 b3 b4 b5 b6 b7 b8 b9 b10 b11 b12 b13 b14 b15 b16 b17 b18 b19 b20 b21 b22 b23 b24 b25 b26 b27 b28 b29 b30 b31 = P.updateRemainder ⟨s, ⟨[b0, b1, b2, b3, b4, b5, b6, b7, b8, b9, b10, b11, b12, b13, b14, b15, b16, b17, b18, b19, b20, b21, b22, b23, b24, b25, b26, b27, b28, b29, b30, b31], 25⟩⟩ := by
  show _ = P.update (P.updateLanes s 25) (P.dataToLanes (P.remainder [b0, b1, b2, b3, b4, b5, b6, b7, b8, b9, b10, b11, b12, b13, b14, b15, b16, b17, b18, b19, b20, b21, b22, b23, b24]))
  rw [← remainder25_eq, ← update_eq, ← updateLanes_eq]; unfold updateRemainder25 remainder25; rw [dataToLanes_eq]
theorem updateRemainder26_eq (s : St) (b0 b1 b2 b3 b4 b5 b6 b7 b8 b9 b10 b11 b12 b13 b14 b15 b16 b17 b18 b19 b20 b21 b22 b23 b24 b25 b26 b27 b28 b29 b30 b31 : BitVec 8) : updateRemainder26 s b0 b1 b2 b3 b4 b5 b6 b7 b8 b9 b10 b11 b12 b13 b14 b15 b16 b17 b18 b19 b20 b21 b22 b23 b24 b25 b26 b27 b28 b29 b30 b31 = P.updateRemainder ⟨s, ⟨[b0, b1, b2, b3, b4, b5, b6, b7, b8, b9, b10, b11, b12, b13, b14, b15, b16, b17, b18, b19, b20, b21, b22, b23, b24, b25, b26, b27, b28, b29, b30, b31], 26⟩⟩ := by
  show _ = P.update (P.updateLanes s 26) (P.dataToLanes (P.remainder [b0, b1, b2, b3, b4, b5, b6, b7, b8, b9, b10, b11, b12, b13, b14, b15, b16, b17, b18, b19, b20, b21, b22, b23, b24, b25]))
  rw [← remainder26_eq, ← update_eq, ← updateLanes_eq]; unfold updateRemainder26 remainder26; rw [dataToLanes_eq]
theorem updateRemainder27_eq (s : St) (b0 b1 b2 b3 b4 b5 b6 b7 b8 b9 b10 b11 b12 b13 b14 b15 b16 b17 b18 b19 b20 b21 b22 b23 b24 b25 b26 b27 b28 b29 b30 b31 : BitVec 8) : updateRemainder27 s b0 b1 b2 b3 b4 b5 b6 b7 b8 b9 b10 b11 b12 b13 b14 b15 b16 b17 b18 b19 b20 b21 b22 b23 b24 b25 b26 b27 b28 b29 b30 b31 = P.updateRemainder ⟨s, ⟨[b0, b1, b2, b3, b4, b5, b6, b7, b8, b9, b10, b11, b12, b13, b14, b15, b16, b17, b18, b19, b20, b21, b22, b23, b24, b25, b26, b27, b28, b29, b30, b31], 27⟩⟩ := by
  show _ = P.update (P.updateLanes s 27) (P.dataToLanes (P.remainder [b0, b1, b2, b3, b4, b5, b6, b7, b8, b9, b10, b11, b12, b13, b14, b15, b16, b17, b18, b19, b20, b21, b22, b23, b24, b25, b26]))
  rw [← remainder27_eq, ← update_eq, ← updateLanes_eq]; unfold updateRemainder27 remainder27; rw [dataToLanes_eq]
theorem updateRemainder28_eq (s : St) (b0 b1 b2 b3 b4 b5 b6 b7 b8 b9 b10 b11 b12 b13 b14 b15 b16 b17 b18 b19 b20 b21 b22 b23 b24 b25 b26 b27 b28 b29 b30 b31 : BitVec 8) : updateRemainder28 s b0 b1 b2 b3 b4 b5 b6 b7 b8 b9 b10 b11 b12 b13 b14 b15 b16 b17 b18 b19 b20 b21 b22 b23 b24 b25 b26 b27 b28 b29 b30 b31 = P.updateRemainder ⟨s, ⟨[b0, b1, b2, b3, b4, b5, b6, b7, b8, b9, b10, b11, b12, b13, b14, b15, b16, b17, b18, b19, b20, b21, b22, b23, b24, b25, b26, b27, b28, b29, b30, b31], 28⟩⟩ := by
  show _ = P.update (P.updateLanes s 28) (P.dataToLanes (P.remainder [b0, b1, b2, b3, b4, b5, b6, b7, b8, b9, b10, b11, b12, b13, b14, b15, b16, b17, b18, b19, b20, b21, b22, b23, b24, b25, b26, b27]))
  rw [← remainder28_eq, ← update_eq, ← updateLanes_eq]; unfold updateRemainder28 remainder28; rw [dataToLanes_eq]
theorem updateRemainder29_eq (s : St) (b0 b1 b2 b3 b4 b5 b6 b7 b8 b9 b10 b11 b12 b13 b14 b15 b16 b17 b18 b19 b20 b21 b22 b23 b24 b25 b26 b27 b28 b29 b30 b31 : BitVec 8) : updateRemainder29 s b0 b1 b2 b3 b4 b5 b6 b7 b8 b9 b10 b11 b12 b13 b14 b15 b16 b17 b18 b19 b20 b21 b22 b23 b24 b25 b26 b27 b28 b29 b30 b31 = P.updateRemainder ⟨s, ⟨[b0, b1, b2, b3, b4, b5, b6, b7, b8, b9, b10, b11, b12, b13, b14, b15, b16, b17, b18, b19, b20, b21, b22, b23, b24, b25, b26, b27, b28, b29, b30, b31], 29⟩⟩ := by
  show _ = P.update (P.updateLanes s 29) (P.dataToLanes (P.remainder [b0, b1, b2, b3, b4, b5, b6, b7, b8, b9, b10, b11, b12, b13, b14, b15, b16, b17, b18, b19, b20, b21, b22, b23, b24, b25, b26, b27, b28]))
  rw [← remainder29_eq, ← update_eq, ← updateLanes_eq]; unfold updateRemainder29 remainder29; rw [dataToLanes_eq]
theorem updateRemainder30_eq (s : St) (b0 b1 b2 b3 b4 b5 b6 b7 b8 b9 b10 b11 b12 b13 b14 b15 b16 b17 b18 b19 b20 b21 b22 b23 b24 b25 b26 b27 b28 b29 b30 b31 : BitVec 8) : updateRemainder30 s b0 b1 b2 b3 b4 b5 b6 b7 b8 b9 b10 b11 b12 b13 b14 b15 b16 b17 b18 b19 b20 b21 b22 b23 b24 b25 b26 b27 b28 b29 b30 b31 = P.updateRemainder ⟨s, ⟨[b0, b1, b2, b3, b4, b5, b6, b7, b8, b9, b10, b11, b12, b13, b14, b15, b16, b17, b18, b19, b20, b21, b22, b23, b24, b25, b26, b27, b28, b29, b30, b31], 30⟩⟩ := by
  show _ = P.update (P.updateLanes s 30) (P.dataToLanes (P.remainder [b0, b1, b2, b3, b4, b5, b6, b7, b8, b9, b10, b11, b12, b13, b14, b15, b16, b17, b18, b19, b20, b21, b22, b23, b24, b25, b26, b27, b28, b29]))
  rw [← remainder30_eq, ← update_eq, ← updateLanes_eq]; unfold updateRemainder30 remainder30; rw [dataToLanes_eq]
theorem updateRemainder31_eq (s : St) (b0 b1 b2 b3 b4 b5 b6 b7 b8 b9 b10 b11 b12 b13 b14 b15 b16 b17 b18 b19 b20 b21 b22 b23 b24 b25 b26 b27 b28 b29 b30 b31 : BitVec 8) : updateRemainder31 s b0 b1 b2 b3 b4 b5 b6 b7 b8 b9 b10 b11 b12 b13 b14 b15 b16 b17 b18 b19 b20 b21 b22 b23 b24 b25 b26 b27 b28 b29 b30 b31 = P.updateRemainder ⟨s, ⟨[b0, b1, b2, b3, b4, b5, b6, b7, b8, b9, b10, b11, b12, b13, b14, b15, b16, b17, b18, b19, b20, b21, b22, b23, b24, b25, b26, b27, b28, b29, b30, b31], 31⟩⟩ := by
  show _ = P.update (P.updateLanes s 31) (P.dataToLanes (P.remainder [b0, b1, b2, b3, b4, b5, b6, b7, b8, b9, b10, b11, b12, b13, b14, b15, b16, b17, b18, b19, b20, b21, b22, b23, b24, b25, b26, b27, b28, b29, b30]))
  rw [← remainder31_eq, ← update_eq, ← updateLanes_eq]; unfold updateRemainder31 remainder31; rw [dataToLanes_eq]

theorem checkpoint0_eq (s : St) (b0 b1 b2 b3 b4 b5 b6 b7 b8 b9 b10 b11 b12 b13 b14 b15 b16 b17 b18 b19 b20 b21 b22 b23 b24 b25 b26 b27 b28 b29 b30 b31 : BitVec 8) : checkpoint0 s b0 b1 b2 b3 b4 b5 b6 b7 b8 b9 b10 b11 b12 b13 b14 b15 b16 b17 b18 b19 b20 b21 b22 b23 b24 b25 b26 b27 b28 b29 b30 b31 = P.checkpoint ⟨s, ⟨[b0, b1, b2, b3, b4, b5, b6, b7, b8, b9, b10, b11, b12, b13, b14, b15, b16, b17, b18, b19, b20, b21, b22, b23, b24, b25, b26, b27, b28, b29, b30, b31], 0⟩⟩ := by
  rw [P.checkpoint_mk _ _ _ rfl (by decide)]
  rfl
theorem checkpoint1_eq (s : St) (b0 b1 b2 b3 b4 b5 b6 b7 b8 b9 b10 b11 b12 b13 b14 b15 b16 b17 b18 b19 b20 b21 b22 b23 b24 b25 b26 b27 b28 b29 b30 b31 : BitVec 8) : checkpoint1 s b0 b1 b2 b3 b4 b5 b6 b7 b8 b9 b10 b11 b12 b13 b14 b15 b16 b17 b18 b19 b20 b21 b22 b23 b24 b25 b26 b27 b28 b29 b30 b31 = P.checkpoint ⟨s, ⟨[b0, b1, b2, b3, b4, b5, b6, b7, b8, b9, b10, b11, b12, b13, b14, b15, b16, b17, b18, b19, b20, b21, b22, b23, b24, b25, b26, b27, b28, b29, b30, b31], 1⟩⟩ := by
  rw [P.checkpoint_mk _ _ _ rfl (by decide)]
  rfl
theorem checkpoint2_eq (s : St) (b0 b1 b2 b3 b4 b5 b6 b7 b8 b9 b10 b11 b12 b13 b14 b15 b16 b17 b18 b19 b20 b21 b22 b23 b24 b25 b26 b27 b28 b29 b30 b31 : BitVec 8) : checkpoint2 s b0 b1 b2 b3 b4 b5 b6 b7 b8 b9 b10 b11 b12 b13 b14 b15 b16 b17 b18 b19 b20 b21 b22 b23 b24 b25 b26 b27 b28 b29 b30 b31 = P.checkpoint ⟨s, ⟨[b0, b1, b2, b3, b4, b5, b6, b7, b8, b9, b10, b11, b12, b13, b14, b15, b16, b17, b18, b19, b20, b21, b22, b23, b24, b25, b26, b27, b28, b29, b30, b31], 2⟩⟩ := by
  rw [P.checkpoint_mk _ _ _ rfl (by decide)]
  rfl
theorem checkpoint3_eq (s : St) (b0 b1 b2 b3 b4 b5 b6 b7 b8 b9 b10 b11 b12 b13 b14 b15 b16 b17 b18 b19 b20 b21 b22 b23 b24 b25 b26 b27 b28 b29 b30 b31 : BitVec 8) : checkpoint3 s b0 b1 b2 b3 b4 b5 b6 b7 b8 b9 b10 b11 b12 b13 b14 b15 b16 b17 b18 b19 b20 b21 b22 b23 b24 b25 b26 b27 b28 b29 b30 b31 = P.checkpoint ⟨s, ⟨[b0, b1, b2, b3, b4, b5, b6, b7, b8, b9, b10, b11, b12, b13, b14, b15, b16, b17, b18, b19, b20, b21, b22, b23, b24, b25, b26, b27, b28, b29, b30, b31], 3⟩⟩ := by
  rw [P.checkpoint_mk _ _ _ rfl (by decide)]
  rfl
theorem checkpoint4_eq (s : St) (b0 b1 b2 b3 b4 b5 b6 b7 b8 b9 b10 b11 b12 b13 b14 b15 b16 b17 b18 b19 b20 b21 b22 b23 b24 b25 b26 b27 b28 b29 b30 b31 : BitVec 8) : checkpoint4 s b0 b1 b2 b3 b4 b5 b6 b7 b8 b9 b10 b11 b12 b13 b14 b15 b16 b17 b18 b19 b20 b21 b22 b23 b24 b25 b26 b27 b28 b29 b30 b31 = P.checkpoint ⟨s, ⟨[b0, b1, b2, b3, b4, b5, b6, b7, b8, b9, b10, b11, b12, b13, b14, b15, b16, b17, b18, b19, b20, b21, b22, b23, b24, b25, b26, b27, b28, b29, b30, b31], 4⟩⟩ := by
  rw [P.checkpoint_mk _ _ _ rfl (by decide)]
  rfl
theorem checkpoint5_eq (s : St) (b0 b1 b2 b3 b4 b5 b6 b7 b8 b9 b10 b11 b12 b13 b14 b15 b16 b17 b18 b19 b20 b21 b22 b23 b24 b25 b26 b27 b28 b29 b30 b31 : BitVec 8) : checkpoint5 s b0 b1 b2 b3 b4 b5 b6 b7 b8 b9 b10 b11 b12 b13 b14 b15 b16 b17 b18 b19 b20 b21 b22 b23 b24 b25 b26 b27 b28 b29 b30 b31 = P.checkpoint ⟨s, ⟨[b0, b1, b2, b3, b4, b5, b6, b7, b8, b9, b10, b11, b12, b13, b14, b15, b16, b17, b18, b19, b20, b21, b22, b23, b24, b25, b26, b27, b28, b29, b30, b31], 5⟩⟩ := by
  rw [P.checkpoint_mk _ _ _ rfl (by decide)]
  rfl
theorem checkpoint6_eq (s : St) (b0 b1 b2 b3 b4 b5 b6 b7 b8 b9 b10 b11 b12 b13 b14 b15 b16 b17 b18 b19 b20 b21 b22 b23 b24 b25 b26 b27 b28 b29 b30 b31 : BitVec 8) : checkpoint6 s b0 b1 b2 b3 b4 b5 b6 b7 b8 b9 b10 b11 b12 b13 b14 b15 b16 b17 b18 b19 b20 b21 b22 b23 b24 b25 b26 b27 b28 b29 b30 b31 = P.checkpoint ⟨s, ⟨[b0, b1, b2, b3, b4, b5, b6, b7, b8, b9, b10, b11, b12, b13, b14, b15, b16, b17, b18, b19, b20, b21, b22, b23, b24, b25, b26, b27, b28, b29, b30, b31], 6⟩⟩ := by
  rw [P.checkpoint_mk _ _ _ rfl (by decide)]
  rfl
theorem checkpoint7_eq (s : St) (b0 b1 b2 b3 b4 b5 b6 b7 b8 b9 b10 b11 b12 b13 b14 b15 b16 b17 b18 b19 b20 b21 b22 b23 b24 b25 b26 b27 b28 b29 b30 b31 : BitVec 8) : checkpoint7 s b0 b1 b2 b3 b4 b5 b6 b7 b8 b9 b10 b11 b12 b13 b14 b15 b16 b17 b18 b19 b20 b21 b22 b23 b24 b25 b26 b27 b28 b29 b30 b31 = P.checkpoint ⟨s, ⟨[b0, b1, b2, b3, b4, b5, b6, b7, b8, b9, b10, b11, b12, b13, b14, b15, b16, b17, b18, b19, b20, b21, b22, b23, b24, b25, b26, b27, b28, b29, b30, b31], 7⟩⟩ := by
  rw [P.checkpoint_mk _ _ _ rfl (by decide)]
  rfl
theorem checkpoint8_eq (s : St) (b0 b1 b2 b3 b4 b5 b6 b7 b8 b9 b10 b11 b12 b13 b14 b15 b16 b17 b18 b19 b20 b21 b22 b23 b24 b25 b26 b27 b28 b29 b30 b31 : BitVec 8) : checkpoint8 s b0 b1 b2 b3 b4 b5 b6 b7 b8 b9 b10 b11 b12 b13 b14 b15 b16 b17 b18 b19 b20 b21 b22 b23 b24 b25 b26 b27 b28 b29 b30 b31 = P.checkpoint ⟨s, ⟨[b0, b1, b2, b3, b4, b5, b6, b7, b8, b9, b10, b11, b12, b13, b14, b15, b16, b17, b18, b19, b20, b21, b22, b23, b24, b25, b26, b27, b28, b29, b30, b31], 8⟩⟩ := by
  rw [P.checkpoint_mk _ _ _ rfl (by decide)]
  rfl
theorem checkpoint9_eq (s : St) (b0 b1 b2 b3 b4 b5 b6 b7 b8 b9 b10 b11 b12 b13 b14 b15 b16 b17 b18 b19 b20 b21 b22 b23 b24 b25 b26 b27 b28 b29 b30 b31 : BitVec 8) : checkpoint9 s b0 b1 b2 b3 b4 b5 b6 b7 b8 b9 b10 b11 b12 b13 b14 b15 b16 b17 b18 b19 b20 b21 b22 b23 b24 b25 b26 b27 b28 b29 b30 b31 = P.checkpoint ⟨s, ⟨[b0, b1, b2, b3, b4, b5, b6, b7, b8, b9, b10, b11, b12, b13, b14, b15, b16, b17, b18, b19, b20, b21, b22, b23, b24, b25, b26, b27, b28, b29, b30, b31], 9⟩⟩ := by
  rw [P.checkpoint_mk _ _ _ rfl (by decide)]
  rfl
theorem checkpoint10_eq (s : St) (b0 b1 b2 b3 b4 b5 b6 b7 b8 b9 b10 b11 b12 b13 b14 b15 b16 b17 b18 b19 b20 b21 b22 b23 b24 b25 b26 b27 b28 b29 b30 b31 : BitVec 8) : checkpoint10 s b0 b1 b2 b3 b4 b5 b6 b7 b8 b9 b10 b11 b12 b13 b14 b15 b16 b17 b18 b19 b20 b21 b22 b23 b24 b25 b26 b27 b28 b29 b30 b31 = P.checkpoint ⟨s, ⟨[b0, b1, b2, b3, b4, b5, b6, b7, b8, b9, b10, b11, b12, b13, b14, b15, b16, b17, b18, b19, b20, b21, b22, b23, b24, b25, b26, b27, b28, b29, b30, b31], 10⟩⟩ := by
  rw [P.checkpoint_mk _ _ _ rfl (by decide)]
  rfl
theorem checkpoint11_eq (s : St) (b0 b1 b2 b3 b4 b5 b6 b7 b8 b9 b10 b11 b12 b13 b14 b15 b16 b17 b18 b19 b20 b21 b22 b23 b24 b25 b26 b27 b28 b29 b30 b31 : BitVec 8) : checkpoint11 s b0 b1 b2 b3 b4 b5 b6 b7 b8 b9 b10 b11 b12 b13 b14 b15 b16 b17 b18 b19 b20 b21 b22 b23 b24 b25 b26 b27 b28 b29 b30 b31 = P.checkpoint ⟨s, ⟨[b0, b1, b2, b3, b4, b5, b6, b7, b8, b9, b10, b11, b12, b13, b14, b15, b16, b17, b18, b19, b20, b21, b22, b23, b24, b25, b26, b27, b28, b29, b30, b31], 11⟩⟩ := by
  rw [P.checkpoint_mk _ _ _ rfl (by decide)]
  rfl
theorem checkpoint12_eq (s : St) (b0 b1 b2 b3 b4 b5 b6 b7 b8 b9 b10 b11 b12 b13 b14 b15 b16 b17 b18 b19 b20 b21 b22 b23 b24 b25 b26 b27 b28 b29 b30 b31 : BitVec 8) : checkpoint12 s b0 b1 b2 b3 b4 b5 b6 b7 b8 b9 b10 b11 b12 b13 b14 b15 b16 b17 b18 b19 b20 b21 b22 b23 b24 b25 b26 b27 b28 b29 b30 b31 = P.checkpoint ⟨s, ⟨[b0, b1, b2, b3, b4, b5, b6, b7, b8, b9, b10, b11, b12, b13, b14, b15, b16, b17, b18, b19, b20, b21, b22, b23, b24, b25, b26, b27, b28, b29, b30, b31], 12⟩⟩ := by
  rw [P.checkpoint_mk _ _ _ rfl (by decide)]
  rfl
theorem checkpoint13_eq (s : St) (b0 b1 b2 b3 b4 b5 b6 b7 b8 b9 b10 b11 b12 b13 b14 b15 b16 b17 b18 b19 b20 b21 b22 b23 b24 b25 b26 b27 b28 b29 b30 b31 : BitVec 8) : checkpoint13 s b0 b1 b2 b3 b4 b5 b6 b7 b8 b9 b10 b11 b12 b13 b14 b15 b16 b17 b18 b19 b20 b21 b22 b23 b24 b25 b26 b27 b28 b29 b30 b31 = P.checkpoint ⟨s, ⟨[b0, b1, b2, b3, b4, b5, b6, b7, b8, b9, b10, b11, b12, b13, b14, b15, b16, b17, b18, b19, b20, b21, b22, b23, b24, b25, b26, b27, b28, b29, b30, b31], 13⟩⟩ := by
  rw [P.checkpoint_mk _ _ _ rfl (by decide)]
  rfl
theorem checkpoint14_eq (s : St) (b0 b1 b2 b3 b4 b5 b6 b7 b8 b9 b10 b11 b12 b13 b14 b15 b16 b17 b18 b19 b20 b21 b22 b23 b24 b25 b26 b27 b28 b29 b30 b31 : BitVec 8) : checkpoint14 s b0 b1 b2 b3 b4 b5 b6 b7 b8 b9 b10 b11 b12 b13 b14 b15 b16 b17 b18 b19 b20 b21 b22 b23 b24 b25 b26 b27 b28 b29 b30 b31 = P.checkpoint ⟨s, ⟨[b0, b1, b2, b3, b4, b5, b6, b7, b8, b9, b10, b11, b12, b13, b14, b15, b16, b17, b18, b19, b20, b21, b22, b23, b24, b25, b26, b27, b28, b29, b30, b31], 14⟩⟩ := by
  rw [P.checkpoint_mk _ _ _ rfl (by decide)]
  rfl
theorem checkpoint15_eq (s : St) (b0 b1 b2 b3 b4 b5 b6 b7 b8 b9 b10 b11 b12 b13 b14 b15 b16 b17 b18 b19 b20 b21 b22 b23 b24 b25 b26 b27 b28 b29 b30 b31 : BitVec 8) : checkpoint15 s b0 b1 b2 b3 b4 b5 b6 b7 b8 b9 b10 b11 b12 b13 b14 b15 b16 b17 b18 b19 b20 b21 b22 b23 b24 b25 b26 b27 b28 b29 b30 b31 = P.checkpoint ⟨s, ⟨[b0, b1, b2, b3, b4, b5, b6, b7, b8, b9, b10, b11, b12, b13, b14, b15, b16, b17, b18, b19, b20, b21, b22, b23, b24, b25, b26, b27, b28, b29, b30, b31], 15⟩⟩ := by
  rw [P.checkpoint_mk _ _ _ rfl (by decide)]
  rfl
theorem checkpoint16_eq (s : St) (b0 b1 b2 b3 b4 b5 b6 b7 b8 b9 b10 b11 b12 b13 b14 b15 b16 b17 b18 b19 b20 b21 b22 b23 b24 b25 b26 b27 b28 b29 b30 b31 : BitVec 8) : checkpoint16 s b0 b1 b2 b3 b4 b5 b6 b7 b8 b9 b10 b11 b12 b13 b14 b15 b16 b17 b18 b19 b20 b21 b22 b23 b24 b25 b26 b27 b28 b29 b30 b31 = P.checkpoint ⟨s, ⟨[b0, b1, b2, b3, b4, b5, b6, b7, b8, b9, b10, b11, b12, b13, b14, b15, b16, b17, b18, b19, b20, b21, b22, b23, b24, b25, b26, b27, b28, b29, b30, b31], 16⟩⟩ := by
  rw [P.checkpoint_mk _ _ _ rfl (by decide)]
  rfl
theorem checkpoint17_eq (s : St) (b0 b1 b2 b3 b4 b5 b6 b7 b8 b9 b10 b11 b12 b13 b14 b15 b16 b17 b18 b19 b20 b21 b22 b23 b24 b25 b26 b27 b28 b29 b30 b31 : BitVec 8) : checkpoint17 s b0 b1 b2 b3 b4 b5 b6 b7 b8 b9 b10 b11 b12 b13 b14 b15 b16 b17 b18 b19 b20 b21 b22 b23 b24 b25 b26 b27 b28 b29 b30 b31 = P.checkpoint ⟨s, ⟨[b0, b1, b2, b3, b4, b5, b6, b7, b8, b9, b10, b11, b12, b13, b14, b15, b16, b17, b18, b19, b20, b21, b22, b23, b24, b25, b26, b27, b28, b29, b30, b31], 17⟩⟩ := by
  rw [P.checkpoint_mk _ _ _ rfl (by decide)]
  rfl
theorem checkpoint18_eq (s : St) (b0 b1 b2 b3 b4 b5 b6 b7 b8 b9 b10 b11 b12 b13 b14 b15 b16 b17 b18 b19 b20 b21 b22 b23 b24 b25 b26 b27 b28 b29 b30 b31 : BitVec 8) : checkpoint18 s b0 b1 b2 b3 b4 b5 b6 b7 b8 b9 b10 b11 b12 b13 b14 b15 b16 b17 b18 b19 b20 b21 b22 b23 b24 b25 b26 b27 b28 b29 b30 b31 = P.checkpoint ⟨s, ⟨[b0, b1, b2, b3, b4, b5, b6, b7, b8, b9, b10, b11, b12, b13, b14, b15, b16, b17, b18, b19, b20, b21, b22, b23, b24, b25, b26, b27, b28, b29, b30, b31], 18⟩⟩ := by
  rw [P.checkpoint_mk _ _ _ rfl (by decide)]
  rfl
theorem checkpoint19_eq (s : St) (b0 b1 b2 b3 b4 b5 b6 b7 b8 b9 b10 b11 b12 b13 b14 b15 b16 b17 b18 b19 b20 b21 b22 b23 b24 b25 b26 b27 b28 b29 b30 b31 : BitVec 8) : checkpoint19 s b0 b1 b2 b3 b4 b5 b6 b7 b8 b9 b10 b11 b12 b13 b14 b15 b16 b17 b18 b19 b20 b21 b22 b23 b24 b25 b26 b27 b28 b29 b30 b31 = P.checkpoint ⟨s, ⟨[b0, b1, b2, b3, b4, b5, b6, b7, b8, b9, b10, b11, b12, b13, b14, b15, b16, b17, b18, b19, b20, b21, b22, b23, b24, b25, b26, b27, b28, b29, b30, b31], 19⟩⟩ := by
  rw [P.checkpoint_mk _ _ _ rfl (by decide)]
  rfl
theorem checkpoint20_eq (s : St) (b0 b1 b2 b3 b4 b5 b6 b7 b8 b9 b10 b11 b12 b13 b14 b15 b16 b17 b18 b19 b20 b21 b22 b23 b24 b25 b26 b27 b28 b29 b30 b31 : BitVec 8) : checkpoint20 s b0 b1 b2 b3 b4 b5 b6 b7 b8 b9 b10 b11 b12 b13 b14 b15 b16 b17 b18 b19 b20 b21 b22 b23 b24 b25 b26 b27 b28 b29 b30 b31 = P.checkpoint ⟨s, ⟨[b0, b1, b2, b3, b4, b5, b6, b7, b8, b9, b10, b11, b12, b13, b14, b15, b16, b17, b18, b19, b20, b21, b22, b23, b24, b25, b26, b27, b28, b29, b30, b31], 20⟩⟩ := by
  rw [P.checkpoint_mk _ _ _ rfl (by decide)]
  rfl
theorem checkpoint21_eq (s : St) (b0 b1 b2 b3 b4 b5 b6 b7 b8 b9 b10 b11 b12 b13 b14 b15 b16 b17 b18 b19 b20 b21 b22 b23 b24 b25 b26 b27 b28 b29 b30 b31 : BitVec 8) : checkpoint21 s b0 b1 b2 b3 b4 b5 b6 b7 b8 b9 b10 b11 b12 b13 b14 b15 b16 b17 b18 b19 b20 b21 b22 b23 b24 b25 b26 b27 b28 b29 b30 b31 = P.checkpoint ⟨s, ⟨[b0, b1, b2, b3, b4, b5, b6, b7, b8, b9, b10, b11, b12, b13, b14, b15, b16, b17, b18, b19, b20, b21, b22, b23, b24, b25, b26, b27, b28, b29, b30, b31], 21⟩⟩ := by
  rw [P.checkpoint_mk _ _ _ rfl (by decide)]
  rfl
theorem checkpoint22_eq (s : St) (b0 b1 b2 b3 b4 b5 b6 b7 b8 b9 b10 b11 b12 b13 b14 b15 b16 b17 b18 b19 b20 b21 b22 b23 b24 b25 b26 b27 b28 b29 b30 b31 : BitVec 8) : checkpoint22 s b0 b1 b2 b3 b4 b5 b6 b7 b8 b9 b10 b11 b12 b13 b14 b15 b16 b17 b18 b19 b20 b21 b22 b23 b24 b25 b26 b27 b28 b29 b30 b31 = P.checkpoint ⟨s, ⟨[b0, b1, b2, b3, b4, b5, b6, b7, b8, b9, b10, b11, b12, b13, b14, b15, b16, b17, b18, b19, b20, b21, b22, b23, b24, b25, b26, b27, b28, b29, b30, b31], 22⟩⟩ := by
  rw [P.checkpoint_mk _ _ _ rfl (by decide)]
  rfl
theorem checkpoint23_eq (s : St) (b0 b1 b2 b3 b4 b5 b6 b7 b8 b9 b10 b11 b12 b13 b14 b15 b16 b17 b18 b19 b20 b21 b22 b23 b24 b25 b26 b27 b28 b29 b30 b31 : BitVec 8) : checkpoint23 s b0 b1 b2 b3 b4 b5 b6 b7 b8 b9 b10 b11 b12 b13 b14 b15 b16 b17 b18 b19 b20 b21 b22 b23 b24 b25 b26 b27 b28 b29 b30 b31 = P.checkpoint ⟨s, ⟨[b0, b1, b2, b3, b4, b5, b6, b7, b8, b9, b10, b11, b12, b13, b14, b15, b16, b17, b18, b19, b20, b21, b22, b23, b24, b25, b26, b27, b28, b29, b30, b31], 23⟩⟩ := by
  rw [P.checkpoint_mk _ _ _ rfl (by decide)]
  rfl
theorem checkpoint24_eq (s : St) (b0 b1 b2 b3 b4 b5 b6 b7 b8 b9 b10 b11 b12 b13 b14 b15 b16 b17 b18 b19 b20 b21 b22 b23 b24 b25 b26 b27 b28 b29 b30 b31 : BitVec 8) : checkpoint24 s b0 b1 b2 b3 b4 b5 b6 b7 b8 b9 b10 b11 b12 b13 b14 b15 b16 b17 b18 b19 b20 b21 b22 b23 b24 b25 b26 b27 b28 b29 b30 b31 = P.checkpoint ⟨s, ⟨[b0, b1, b2, b3, b4, b5, b6, b7, b8, b9, b10, b11, b12, b13, b14, b15, b16, b17, b18, b19, b20, b21, b22, b23, b24, b25, b26, b27, b28, b29, b30, b31], 24⟩⟩ := by
  rw [P.checkpoint_mk _ _ _ rfl (by decide)]
  rfl
theorem checkpoint25_eq (s : St) (b0 b1 b2 b3 b4 b5 b6 b7 b8 b9 b10 b11 b12 b13 b14 b15 b16 b17 b18 b19 b20 b21 b22 b23 b24 b25 b26 b27 b28 b29 b30 b31 : BitVec 8) : checkpoint25 s b0 b1 b2 b3 b4 b5 b6 b7 b8 b9 b10 b11 b12 b13 b14 b15 b16 b17 b18 b19 b20 b21 b22 b23 b24 b25 b26 b27 b28 b29 b30 b31 = P.checkpoint ⟨s, ⟨[b0, b1, b2, b3, b4, b5, b6, b7, b8, b9, b10, b11, b12, b13, b14, b15, b16, b17, b18, b19, b20, b21, b22, b23, b24, b25, b26, b27, b28, b29, b30, b31], 25⟩⟩ := by
  rw [P.checkpoint_mk _ _ _ rfl (by decide)]
  rfl
theorem checkpoint26_eq (s : St) (b0 b1 b2 b3 b4 b5 b6 b7 b8 b9 b10 b11 b12 b13 b14 b15 b16 b17 b18 b19 b20 b21 b22 b23 b24 b25 b26 b27 b28 b29 b30 b31 : BitVec 8) : checkpoint26 s b0 b1 b2 b3 b4 b5 b6 b7 b8 b9 b10 b11 b12 b13 b14 b15 b16 b17 b18 b19 b20 b21 b22 b23 b24 b25 b26 b27 b28 b29 b30 b31 = P.checkpoint ⟨s, ⟨[b0, b1, b2, b3, b4, b5, b6, b7, b8, b9, b10, b11, b12, b13, b14, b15, b16, b17, b18, b19, b20, b21, b22, b23, b24, b25, b26, b27, b28, b29, b30, b31], 26⟩⟩ := by
  rw [P.checkpoint_mk _ _ _ rfl (by decide)]
  rfl
theorem checkpoint27_eq (s : St) (b0 b1 b2 b3 b4 b5 b6 b7 b8 b9 b10 b11 b12 b13 b14 b15 b16 b17 b18 b19 b20 b21 b22 b23 b24 b25 b26 b27 b28 b29 b30 b31 : BitVec 8) : checkpoint27 s b0 b1 b2 b3 b4 b5 b6 b7 b8 b9 b10 b11 b12 b13 b14 b15 b16 b17 b18 b19 b20 b21 b22 b23 b24 b25 b26 b27 b28 b29 b30 b31 = P.checkpoint ⟨s, ⟨[b0, b1, b2, b3, b4, b5, b6, b7, b8, b9, b10, b11, b12, b13, b14, b15, b16, b17, b18, b19, b20, b21, b22, b23, b24, b25, b26, b27, b28, b29, b30, b31], 27⟩⟩ := by
  rw [P.checkpoint_mk _ _ _ rfl (by decide)]
  rfl
theorem checkpoint28_eq (s : St) (b0 b1 b2 b3 b4 b5 b6 b7 b8 b9 b10 b11 b12 b13 b14 b15 b16 b17 b18 b19 b20 b21 b22 b23 b24 b25 b26 b27 b28 b29 b30 b31 : BitVec 8) : checkpoint28 s b0 b1 b2 b3 b4 b5 b6 b7 b8 b9 b10 b11 b12 b13 b14 b15 b16 b17 b18 b19 b20 b21 b22 b23 b24 b25 b26 b27 b28 b29 b30 b31 = P.checkpoint ⟨s, ⟨[b0, b1, b2, b3, b4, b5, b6, b7, b8, b9, b10, b11, b12, b13, b14, b15, b16, b17, b18, b19, b20, b21, b22, b23, b24, b25, b26, b27, b28, b29, b30, b31], 28⟩⟩ := by
  rw [P.checkpoint_mk _ _ _ rfl (by decide)]
  rfl
theorem checkpoint29_eq (s : St) (b0 b1 b2 b3 b4 b5 b6 b7 b8 b9 b10 b11 b12 b13 b14 b15 b16 b17 b18 b19 b20 b21 b22 b23 b24 b25 b26 b27 b28 b29 b30 b31 : BitVec 8) : checkpoint29 s b0 b1 b2 b3 b4 b5 b6 b7 b8 b9 b10 b11 b12 b13 b14 b15 b16 b17 b18 b19 b20 b21 b22 b23 b24 b25 b26 b27 b28 b29 b30 b31 = P.checkpoint ⟨s, ⟨[b0, b1, b2, b3, b4, b5, b6, b7, b8, b9, b10, b11, b12, b13, b14, b15, b16, b17, b18, b19, b20, b21, b22, b23, b24, b25, b26, b27, b28, b29, b30, b31], 29⟩⟩ := by
  rw [P.checkpoint_mk _ _ _ rfl (by decide)]
  rfl
theorem checkpoint30_eq (s : St) (b0 b1 b2 b3 b4 b5 b6 b7 b8 b9 b10 b11 b12 b13 b14 b15 b16 b17 b18 b19 b20 b21 b22 b23 b24 b25 b26 b27 b28 b29 b30 b31 : BitVec 8) : checkpoint30 s b0 b1 b2 b3 b4 b5 b6 b7 b8 b9 b10 b11 b12 b13 b14 b15 b16 b17 b18 b19 b20 b21 b22 b23 b24 b25 b26 b27 b28 b29 b30 b31 = P.checkpoint ⟨s, ⟨[b0, b1, b2, b3, b4, b5, b6, b7, b8, b9, b10, b11, b12, b13, b14, b15, b16, b17, b18, b19, b20, b21, b22, b23, b24, b25, b26, b27, b28, b29, b30, b31], 30⟩⟩ := by
  rw [P.checkpoint_mk _ _ _ rfl (by decide)]
  rfl
theorem checkpoint31_eq (s : St) (b0 b1 b2 b3 b4 b5 b6 b7 b8 b9 b10 b11 b12 b13 b14 b15 b16 b17 b18 b19 b20 b21 b22 b23 b24 b25 b26 b27 b28 b29 b30 b31 : BitVec 8) : checkpoint31 s b0 b1 b2 b3 b4 b5 b6 b7 b8 b9 b10 b11 b12 b13 b14 b15 b16 b17 b18 b19 b20 b21 b22 b23 b24 b25 b26 b27 b28 b29 b30 b31 = P.checkpoint ⟨s, ⟨[b0, b1, b2, b3, b4, b5, b6, b7, b8, b9, b10, b11, b12, b13, b14, b15, b16, b17, b18, b19, b20, b21, b22, b23, b24, b25, b26, b27, b28, b29, b30, b31], 31⟩⟩ := by
  rw [P.checkpoint_mk _ _ _ rfl (by decide)]
  rfl
theorem checkpoint32_eq (s : St) (b0 b1 b2 b3 b4 b5 b6 b7 b8 b9 b10 b11 b12 b13 b14 b15 b16 b17 b18 b19 b20 b21 b22 b23 b24 b25 b26 b27 b28 b29 b30 b31 : BitVec 8) : checkpoint32 s b0 b1 b2 b3 b4 b5 b6 b7 b8 b9 b10 b11 b12 b13 b14 b15 b16 b17 b18 b19 b20 b21 b22 b23 b24 b25 b26 b27 b28 b29 b30 b31 = P.checkpoint ⟨s, ⟨[b0, b1, b2, b3, b4, b5, b6, b7, b8, b9, b10, b11, b12, b13, b14, b15, b16, b17, b18, b19, b20, b21, b22, b23, b24, b25, b26, b27, b28, b29, b30, b31], 32⟩⟩ := by
  rw [P.checkpoint_mk _ _ _ rfl (by decide)]
  rfl

theorem fromCheckpoint0_eq (b0 b1 b2 b3 b4 b5 b6 b7 b8 b9 b10 b11 b12 b13 b14 b15 b16 b17 b18 b19 b20 b21 b22 b23 b24 b25 b26 b27 b28 b29 b30 b31 b32 b33 b34 b35 b36 b37 b38 b39 b40 b41 b42 b43 b44 b45 b46 b47 b48 b49 b50 b51 b52 b53 b54 b55 b56 b57 b58 b59 b60 b61 b62 b63 b64 b65 b66 b67 b68 b69 b70 b71 b72 b73 b74 b75 b76 b77 b78 b79 b80 b81 b82 b83 b84 b85 b86 b87 b88 b89 b90 b91 b92 b93 b94 b95 b96 b97 b98 b99 b100 b101 b102 b103 b104 b105 b106 b107 b108 b109 b110 b111 b112 b113 b114 b115 b116 b117 b118 b119 b120 b121 b122 b123 b124 b125 b126 b127 b128 b129 b130 b131 b132 b133 b134 b135 b136 b137 b138 b139 b140 b141 b142 b143 b144 b145 b146 b147 b148 b149 b150 b151 b152 b153 b154 b155 b156 b157 b158 b159 b160 b161 b162 b163 : BitVec 8) (h : min (HH.le32 [b160, b161, b162, b163]).toNat 31 = 0) :
    P.fromCheckpoint [b0, b1, b2, b3, b4, b5, b6, b7, b8, b9, b10, b11, b12, b13, b14, b15, b16, b17, b18, b19, b20, b21, b22, b23, b24, b25, b26, b27, b28, b29, b30, b31, b32, b33, b34, b35, b36, b37, b38, b39, b40, b41, b42, b43, b44, b45, b46, b47, b48, b49, b50, b51, b52, b53, b54, b55, b56, b57, b58, b59, b60, b61, b62, b63, b64, b65, b66, b67, b68, b69, b70, b71, b72, b73, b74, b75, b76, b77, b78, b79, b80, b81, b82, b83, b84, b85, b86, b87, b88, b89, b90, b91, b92, b93, b94, b95, b96, b97, b98, b99, b100, b101, b102, b103, b104, b105, b106, b107, b108, b109, b110, b111, b112, b113, b114, b115, b116, b117, b118, b119, b120, b121, b122, b123, b124, b125, b126, b127, b128, b129, b130, b131, b132, b133, b134, b135, b136, b137, b138, b139, b140, b141, b142, b143, b144, b145, b146, b147, b148, b149, b150, b151, b152, b153, b154, b155, b156, b157, b158, b159, b160, b161, b162, b163] = fromCheckpoint0 b0 b1 b2 b3 b4 b5 b6 b7 b8 b9 b10 b11 b12 b13 b14 b15 b16 b17 b18 b19 b20 b21 b22 b23 b24 b25 b26 b27 b28 b29 b30 b31 b32 b33 b34 b35 b36 b37 b38 b39 b40 b41 b42 b43 b44 b45 b46 b47 b48 b49 b50 b51 b52 b53 b54 b55 b56 b57 b58 b59 b60 b61 b62 b63 b64 b65 b66 b67 b68 b69 b70 b71 b72 b73 b74 b75 b76 b77 b78 b79 b80 b81 b82 b83 b84 b85 b86 b87 b88 b89 b90 b91 b92 b93 b94 b95 b96 b97 b98 b99 b100 b101 b102 b103 b104 b105 b106 b107 b108 b109 b110 b111 b112 b113 b114 b115 b116 b117 b118 b119 b120 b121 b122 b123 b124 b125 b126 b127 b128 b129 b130 b131 b132 b133 b134 b135 b136 b137 b138 b139 b140 b141 b142 b143 b144 b145 b146 b147 b148 b149 b150 b151 b152 b153 b154 b155 b156 b157 b158 b159 b160 b161 b162 b163 := by
  refine P.eq_fromCheckpoint _ 0 _ ?_ ?_ h <;> rfl
theorem fromCheckpoint1_eq (b0 b1 b2 b3 b4 b5 b6 b7 b8 b9 b10 b11 b12 b13 b14 b15 b16 b17 b18 b19 b20 b21 b22 b23 b24 b25 b26 b27 b28 b29 b30 b31 b32 b33 b34 b35 b36 b37 b38 b39 b40 b41 b42 b43 b44 b45 b46 b47 b48 b49 b50 b51 b52 b53 b54 b55 b56 b57 b58 b59 b60 b61 b62 b63 b64 b65 b66 b67 b68 b69 b70 b71 b72 b73 b74 b75 b76 b77 b78 b79 b80 b81 b82 b83 b84 b85 b86 b87 b88 b89 b90 b91 b92 b93 b94 b95 b96 b97 b98 b99 b100 b101 b102 b103 b104 b105 b106 b107 b108 b109 b110 b111 b112 b113 b114 b115 b116 b117 b118 b119 b120 b121 b122 b123 b124 b125 b126 b127 b128 b129 b130 b131 b132 b133 b134 b135 b136 b137 b138 b139 b140 b141 b142 b143 b144 b145 b146 b147 b148 b149 b150 b151 b152 b153 b154 b155 b156 b157 b158 b159 b160 b161 b162 b163 : BitVec 8) (h : min (HH.le32 [b160, b161, b162, b163]).toNat 31 = 1) :
    P.fromCheckpoint [b0, b1, b2, b3, b4, b5, b6, b7, b8, b9, b10, b11, b12, b13, b14, b15, b16, b17, b18, b19, b20, b21, b22, b23, b24, b25, b26, b27, b28, b29, b30, b31, b32, b33, b34, b35, b36, b37, b38, b39, b40, b41, b42, b43, b44, b45, b46, b47, b48, b49, b50, b51, b52, b53, b54, b55, b56, b57, b58, b59, b60, b61, b62, b63, b64, b65, b66, b67, b68, b69, b70, b71, b72, b73, b74, b75, b76, b77, b78, b79, b80, b81, b82, b83, b84, b85, b86, b87, b88, b89, b90, b91, b92, b93, b94, b95, b96, b97, b98, b99, b100, b101, b102, b103, b104, b105, b106, b107, b108, b109, b110, b111, b112, b113, b114, b115, b116, b117, b118, b119, b120, b121, b122, b123, b124, b125, b126, b127, b128, b129, b130, b131, b132, b133, b134, b135, b136, b137, b138, b139, b140, b141, b142, b143, b144, b145, b146, b147, b148, b149, b150, b151, b152, b153, b154, b155, b156, b157, b158, b159, b160, b161, b162, b163] = fromCheckpoint1 b0 b1 b2 b3 b4 b5 b6 b7 b8 b9 b10 b11 b12 b13 b14 b15 b16 b17 b18 b19 b20 b21 b22 b23 b24 b25 b26 b27 b28 b29 b30 b31 b32 b33 b34 b35 b36 b37 b38 b39 b40 b41 b42 b43 b44 b45 b46 b47 b48 b49 b50 b51 b52 b53 b54 b55 b56 b57 b58 b59 b60 b61 b62 b63 b64 b65 b66 b67 b68 b69 b70 b71 b72 b73 b74 b75 b76 b77 b78 b79 b80 b81 b82 b83 b84 b85 b86 b87 b88 b89 b90 b91 b92 b93 b94 b95 b96 b97 b98 b99 b100 b101 b102 b103 b104 b105 b106 b107 b108 b109 b110 b111 b112 b113 b114 b115 b116 b117 b118 b119 b120 b121 b122 b123 b124 b125 b126 b127 b128 b129 b130 b131 b132 b133 b134 b135 b136 b137 b138 b139 b140 b141 b142 b143 b144 b145 b146 b147 b148 b149 b150 b151 b152 b153 b154 b155 b156 b157 b158 b159 b160 b161 b162 b163 := by
  refine P.eq_fromCheckpoint _ 1 _ ?_ ?_ h <;> rfl
theorem fromCheckpoint2_eq (b0 b1 b2 b3 b4 b5 b6 b7 b8 b9 b10 b11 b12 b13 b14 b15 b16 b17 b18 b19 b20 b21 b22 b23 b24 b25 b26 b27 b28 b29 b30 b31 b32 b33 b34 b35 b36 b37 b38 b39 b40 b41 b42 b43 b44 b45 b46 b47 b48 b49 b50 b51 b52 b53 b54 b55 b56 b57 b58 b59 b60 b61 b62 b63 b64 b65 b66 b67 b68 b69 b70 b71 b72 b73 b74 b75 b76 b77 b78 b79 b80 b81 b82 b83 b84 b85 b86 b87 b88 b89 b90 b91 b92 b93 b94 b95 b96 b97 b98 b99 b100 b101 b102 b103 b104 b105 b106 b107 b108 b109 b110 b111 b112 b113 b114 b115 b116 b117 b118 b119 b120 b121 b122 b123 b124 b125 b126 b127 b128 b129 b130 b131 b132 b133 b134 b135 b136 b137 b138 b139 b140 b141 b142 b143 b144 b145 b146 b147 b148 b149 b150 b151 b152 b153 b154 b155 b156 b157 b158 b159 b160 b161 b162 b163 : BitVec 8) (h : min (HH.le32 [b160, b161, b162, b163]).toNat 31 = 2) :
    P.fromCheckpoint [b0, b1, b2, b3, b4, b5, b6, b7, b8, b9, b10, b11, b12, b13, b14, b15, b16, b17, b18, b19, b20, b21, b22, b23, b24, b25, b26, b27, b28, b29, b30, b31, b32, b33, b34, b35, b36, b37, b38, b39, b40, b41, b42, b43, b44, b45, b46, b47, b48, b49, b50, b51, b52, b53, b54, b55, b56, b57, b58, b59, b60, b61, b62, b63, b64, b65, b66, b67, b68, b69, b70, b71, b72, b73, b74, b75, b76, b77, b78, b79, b80, b81, b82, b83, b84, b85, b86, b87, b88, b89, b90, b91, b92, b93, b94, b95, b96, b97, b98, b99, b100, b101, b102, b103, b104, b105, b106, b107, b108, b109, b110, b111, b112, b113, b114, b115, b116, b117, b118, b119, b120, b121, b122, b123, b124, b125, b126, b127, b128, b129, b130, b131, b132, b133, b134, b135, b136, b137, b138, b139, b140, b141, b142, b143, b144, b145, b146, b147, b148, b149, b150, b151, b152, b153, b154, b155, b156, b157, b158, b159, b160, b161, b162, b163] = fromCheckpoint2 b0 b1 b2 b3 b4 b5 b6 b7 b8 b9 b10 b11 b12 b13 b14 b15 b16 b17 b18 b19 b20 b21 b22 b23 b24 b25 b26 b27 b28 b29 b30 b31 b32 b33 b34 b35 b36 b37 b38 b39 b40 b41 b42 b43 b44 b45 b46 b47 b48 b49 b50 b51 b52 b53 b54 b55 b56 b57 b58 b59 b60 b61 b62 b63 b64 b65 b66 b67 b68 b69 b70 b71 b72 b73 b74 b75 b76 b77 b78 b79 b80 b81 b82 b83 b84 b85 b86 b87 b88 b89 b90 b91 b92 b93 b94 b95 b96 b97 b98 b99 b100 b101 b102 b103 b104 b105 b106 b107 b108 b109 b110 b111 b112 b113 b114 b115 b116 b117 b118 b119 b120 b121 b122 b123 b124 b125 b126 b127 b128 b129 b130 b131 b132 b133 b134 b135 b136 b137 b138 b139 b140 b141 b142 b143 b144 b145 b146 b147 b148 b149 b150 b151 b152 b153 b154 b155 b156 b157 b158 b159 b160 b161 b162 b163 := by
  refine P.eq_fromCheckpoint _ 2 _ ?_ ?_ h <;> rfl
theorem fromCheckpoint3_eq (b0 b1 b2 b3 b4 b5 b6 b7 b8 b9 b10 b11 b12 b13 b14 b15 b16 b17 b18 b19 b20 b21 b22 b23 b24 b25 b26 b27 b28 b29 b30 b31 b32 b33 b34 b35 b36 b37 b38 b39 b40 b41 b42 b43 b44 b45 b46 b47 b48 b49 b50 b51 b52 b53 b54 b55 b56 b57 b58 b59 b60 b61 b62 b63 b64 b65 b66 b67 b68 b69 b70 b71 b72 b73 b74 b75 b76 b77 b78 b79 b80 b81 b82 b83 b84 b85 b86 b87 b88 b89 b90 b91 b92 b93 b94 b95 b96 b97 b98 b99 b100 b101 b102 b103 b104 b105 b106 b107 b108 b109 b110 b111 b112 b113 b114 b115 b116 b117 b118 b119 b120 b121 b122 b123 b124 b125 b126 b127 b128 b129 b130 b131 b132 b133 b134 b135 b136 b137 b138 b139 b140 b141 b142 b143 b144 b145 b146 b147 b148 b149 b150 b151 b152 b153 b154 b155 b156 b157 b158 b159 b160 b161 b162 b163 : BitVec 8) (h : min (HH.le32 [b160, b161, b162, b163]).toNat 31 = 3) :
    P.fromCheckpoint [b0, b1, b2, b3, b4, b5, b6, b7, b8, b9, b10, b11, b12, b13, b14, b15, b16, b17, b18, b19, b20, b21, b22, b23, b24, b25, b26, b27, b28, b29, b30, b31, b32, b33, b34, b35, b36, b37, b38, b39, b40, b41, b42, b43, b44, b45, b46, b47, b48, b49, b50, b51, b52, b53, b54, b55, b56, b57, b58, b59, b60, b61, b62, b63, b64, b65, b66, b67, b68, b69, b70, b71, b72, b73, b74, b75, b76, b77, b78, b79, b80, b81, b82, b83, b84, b85, b86, b87, b88, b89, b90, b91, b92, b93, b94, b95, b96, b97, b98, b99, b100, b101, b102, b103, b104, b105, b106, b107, b108, b109, b110, b111, b112, b113, b114, b115, b116, b117, b118, b119, b120, b121, b122, b123, b124, b125, b126, b127, b128, b129, b130, b131, b132, b133, b134, b135, b136, b137, b138, b139, b140, b141, b142, b143, b144, b145, b146, b147, b148, b149, b150, b151, b152, b153, b154, b155, b156, b157, b158, b159, b160, b161, b162, b163] = fromCheckpoint3 b0 b1 b2 b3 b4 b5 b6 b7 b8 b9 b10 b11 b12 b13 b14 b15 b16 b17 b18 b19 b20 b21 b22 b23 b24 b25 b26 b27 b28 b29 b30 b31 b32 b33 b34 b35 b36 b37 b38 b39 b40 b41 b42 b43 b44 b45 b46 b47 b48 b49 b50 b51 b52 b53 b54 b55 b56 b57 b58 b59 b60 b61 b62 b63 b64 b65 b66 b67 b68 b69 b70 b71 b72 b73 b74 b75 b76 b77 b78 b79 b80 b81 b82 b83 b84 b85 b86 b87 b88 b89 b90 b91 b92 b93 b94 b95 b96 b97 b98 b99 b100 b101 b102 b103 b104 b105 b106 b107 b108 b109 b110 b111 b112 b113 b114 b115 b116 b117 b118 b119 b120 b121 b122 b123 b124 b125 b126 b127 b128 b129 b130 b131 b132 b133 b134 b135 b136 b137 b138 b139 b140 b141 b142 b143 b144 b145 b146 b147 b148 b149 b150 b151 b152 b153 b154 b155 b156 b157 b158 b159 b160 b161 b162 b163 := by
  refine P.eq_fromCheckpoint _ 3 _ ?_ ?_ h <;> rfl
theorem fromCheckpoint4_eq (b0 b1 b2 b3 b4 b5 b6 b7 b8 b9 b10 b11 b12 b13 b14 b15 b16 b17 b18 b19 b20 b21 b22 b23 b24 b25 b26 b27 b28 b29 b30 b31 b32 b33 b34 b35 b36 b37 b38 b39 b40 b41 b42 b43 b44 b45 b46 b47 b48 b49 b50 b51 b52 b53 b54 b55 b56 b57 b58 b59 b60 b61 b62 b63 b64 b65 b66 b67 b68 b69 b70 b71 b72 b73 b74 b75 b76 b77 b78 b79 b80 b81 b82 b83 b84 b85 b86 b87 b88 b89 b90 b91 b92 b93 b94 b95 b96 b97 b98 b99 b100 b101 b102 b103 b104 b105 b106 b107 b108 b109 b110 b111 b112 b113 b114 b115 b116 b117 b118 b119 b120 b121 b122 b123 b124 b125 b126 b127 b128 b129 b130 b131 b132 b133 b134 b135 b136 b137 b138 b139 b140 b141 b142 b143 b144 b145 b146 b147 b148 b149 b150 b151 b152 b153 b154 b155 b156 b157 b158 b159 b160 b161 b162 b163 : BitVec 8) (h : min (HH.le32 [b160, b161, b162, b163]).toNat 31 = 4) :
    P.fromCheckpoint [b0, b1, b2, b3, b4, b5, b6, b7, b8, b9, b10, b11, b12, b13, b14, b15, b16, b17, b18, b19, b20, b21, b22, b23, b24, b25, b26, b27, b28, b29, b30, b31, b32, b33, b34, b35, b36, b37, b38, b39, b40, b41, b42, b43, b44, b45, b46, b47, b48, b49, b50, b51, b52, b53, b54, b55, b56, b57, b58, b59, b60, b61, b62, b63, b64, b65, b66, b67, b68, b69, b70, b71, b72, b73, b74, b75, b76, b77, b78, b79, b80, b81, b82, b83, b84, b85, b86, b87, b88, b89, b90, b91, b92, b93, b94, b95, b96, b97, b98, b99, b100, b101, b102, b103, b104, b105, b106, b107, b108, b109, b110, b111, b112, b113, b114, b115, b116, b117, b118, b119, b120, b121, b122, b123, b124, b125, b126, b127, b128, b129, b130, b131, b132, b133, b134, b135, b136, b137, b138, b139, b140, b141, b142, b143, b144, b145, b146, b147, b148, b149, b150, b151, b152, b153, b154, b155, b156, b157, b158, b159, b160, b161, b162, b163] = fromCheckpoint4 b0 b1 b2 b3 b4 b5 b6 b7 b8 b9 b10 b11 b12 b13 b14 b15 b16 b17 b18 b19 b20 b21 b22 b23 b24 b25 b26 b27 b28 b29 b30 b31 b32 b33 b34 b35 b36 b37 b38 b39 b40 b41 b42 b43 b44 b45 b46 b47 b48 b49 b50 b51 b52 b53 b54 b55 b56 b57 b58 b59 b60 b61 b62 b63 b64 b65 b66 b67 b68 b69 b70 b71 b72 b73 b74 b75 b76 b77 b78 b79 b80 b81 b82 b83 b84 b85 b86 b87 b88 b89 b90 b91 b92 b93 b94 b95 b96 b97 b98 b99 b100 b101 b102 b103 b104 b105 b106 b107 b108 b109 b110 b111 b112 b113 b114 b115 b116 b117 b118 b119 b120 b121 b122 b123 b124 b125 b126 b127 b128 b129 b130 b131 b132 b133 b134 b135 b136 b137 b138 b139 b140 b141 b142 b143 b144 b145 b146 b147 b148 b149 b150 b151 b152 b153 b154 b155 b156 b157 b158 b159 b160 b161 b162 b163 := by
  refine P.eq_fromCheckpoint _ 4 _ ?_ ?_ h <;> rfl
theorem fromCheckpoint5_eq (b0 b1 b2 b3 b4 b5 b6 b7 b8 b9 b10 b11 b12 b13 b14 b15 b16 b17 b18 b19 b20 b21 b22 b23 b24 b25 b26 b27 b28 b29 b30 b31 b32 b33 b34 b35 b36 b37 b38 b39 b40 b41 b42 b43 b44 b45 b46 b47 b48 b49 b50 b51 b52 b53 b54 b55 b56 b57 b58 b59 b60 b61 b62 b63 b64 b65 b66 b67 b68 b69 b70 b71 b72 b73 b74 b75 b76 b77 b78 b79 b80 b81 b82 b83 b84 b85 b86 b87 b88 b89 b90 b91 b92 b93 b94 b95 b96 b97 b98 b99 b100 b101 b102 b103 b104 b105 b106 b107 b108 b109 b110 b111 b112 b113 b114 b115 b116 b117 b118 b119 b120 b121 b122 b123 b124 b125 b126 b127 b128 b129 b130 b131 b132 b133 b134 b135 b136 b137 b138 b139 b140 b141 b142 b143 b144 b145 b146 b147 b148 b149 b150 b151 b152 b153 b154 b155 b156 b157 b158 b159 b160 b161 b162 b163 : BitVec 8) (h : min (HH.le32 [b160, b161, b162, b163]).toNat 31 = 5) :
    P.fromCheckpoint [b0, b1, b2, b3, b4, b5, b6, b7, b8, b9, b10, b11, b12, b13, b14, b15, b16, b17, b18, b19, b20, b21, b22, b23, b24, b25, b26, b27, b28, b29, b30, b31, b32, b33, b34, b35, b36, b37, b38, b39, b40, b41, b42, b43, b44, b45, b46, b47, b48, b49, b50, b51, b52, b53, b54, b55, b56, b57, b58, b59, b60, b61, b62, b63, b64, b65, b66, b67, b68, b69, b70, b71, b72, b73, b74, b75, b76, b77, b78, b79, b80, b81, b82, b83, b84, b85, b86, b87, b88, b89, b90, b91, b92, b93, b94, b95, b96, b97, b98, b99, b100, b101, b102, b103, b104, b105, b106, b107, b108, b109, b110, b111, b112, b113, b114, b115, b116, b117, b118, b119, b120, b121, b122, b123, b124, b125, b126, b127, b128, b129, b130, b131, b132, b133, b134, b135, b136, b137, b138, b139, b140, b141, b142, b143, b144, b145, b146, b147, b148, b149, b150, b151, b152, b153, b154, b155, b156, b157, b158, b159, b160, b161, b162, b163] = fromCheckpoint5 b0 b1 b2 b3 b4 b5 b6 b7 b8 b9 b10 b11 b12 b13 b14 b15 b16 b17 b18 b19 b20 b21 b22 b23 b24 b25 b26 b27 b28 b29 b30 b31 b32 b33 b34 b35 b36 b37 b38 b39 b40 b41 b42 b43 b44 b45 b46 b47 b48 b49 b50 b51 b52 b53 b54 b55 b56 b57 b58 b59 b60 b61 b62 b63 b64 b65 b66 b67 b68 b69 b70 b71 b72 b73 b74 b75 b76 b77 b78 b79 b80 b81 b82 b83 b84 b85 b86 b87 b88 b89 b90 b91 b92 b93 b94 b95 b96 b97 b98 b99 b100 b101 b102 b103 b104 b105 b106 b107 b108 b109 b110 b111 b112 b113 b114 b115 b116 b117 b118 b119 b120 b121 b122 b123 b124 b125 b126 b127 b128 b129 b130 b131 b132 b133 b134 b135 b136 b137 b138 b139 b140 b141 b142 b143 b144 b145 b146 b147 b148 b149 b150 b151 b152 b153 b154 b155 b156 b157 b158 b159 b160 b161 b162 b163 := by
  refine P.eq_fromCheckpoint _ 5 _ ?_ ?_ h <;> rfl
theorem fromCheckpoint6_eq (b0 b1 b2 b3 b4 b5 b6 b7 b8 b9 b10 b11 b12 b13 b14 b15 b16 b17 b18 b19 b20 b21 b22 b23 b24 b25 b26 b27 b28 b29 b30 b31 b32 b33 b34 b35 b36 b37 b38 b39 b40 b41 b42 b43 b44 b45 b46 b47 b48 b49 b50 b51 b52 b53 b54 b55 b56 b57 b58 b59 b60 b61 b62 b63 b64 b65 b66 b67 b68 b69 b70 b71 b72 b73 b74 b75 b76 b77 b78 b79 b80 b81 b82 b83 b84 b85 b86 b87 b88 b89 b90 b91 b92 b93 b94 b95 b96 b97 b98 b99 b100 b101 b102 b103 b104 b105 b106 b107 b108 b109 b110 b111 b112 b113 b114 b115 b116 b117 b118 b119 b120 b121 b122 b123 b124 b125 b126 b127 b128 b129 b130 b131 b132 b133 b134 b135 b136 b137 b138 b139 b140 b141 b142 b143 b144 b145 b146 b147 b148 b149 b150 b151 b152 b153 b154 b155 b156 b157 b158 b159 b160 b161 b162 b163 : BitVec 8) (h : min (HH.le32 [b160, b161, b162, b163]).toNat 31 = 6) :
    P.fromCheckpoint [b0, b1, b2, b3, b4, b5, b6, b7, b8, b9, b10, b11, b12, b13, b14, b15, b16, b17, b18, b19, b20, b21, b22, b23, b24, b25, b26, b27, b28, b29, b30, b31, b32, b33, b34, b35, b36, b37, b38, b39, b40, b41, b42, b43, b44, b45, b46, b47, b48, b49, b50, b51, b52, b53, b54, b55, b56, b57, b58, b59, b60, b61, b62, b63, b64, b65, b66, b67, b68, b69, b70, b71, b72, b73, b74, b75, b76, b77, b78, b79, b80, b81, b82, b83, b84, b85, b86, b87, b88, b89, b90, b91, b92, b93, b94, b95, b96, b97, b98, b99, b100, b101, b102, b103, b104, b105, b106, b107, b108, b109, b110, b111, b112, b113, b114, b115, b116, b117, b118, b119, b120, b121, b122, b123, b124, b125, b126, b127, b128, b129, b130, b131, b132, b133, b134, b135, b136, b137, b138, b139, b140, b141, b142, b143, b144, b145, b146, b147, b148, b149, b150, b151, b152, b153, b154, b155, b156, b157, b158, b159, b160, b161, b162, b163] = fromCheckpoint6 b0 b1 b2 b3 b4 b5 b6 b7 b8 b9 b10 b11 b12 b13 b14 b15 b16 b17 b18 b19 b20 b21 b22 b23 b24 b25 b26 b27 b28 b29 b30 b31 b32 b33 b34 b35 b36 b37 b38 b39 b40 b41 b42 b43 b44 b45 b46 b47 b48 b49 b50 b51 b52 b53 b54 b55 b56 b57 b58 b59 b60 b61 b62 b63 b64 b65 b66 b67 b68 b69 b70 b71 b72 b73 b74 b75 b76 b77 b78 b79 b80 b81 b82 b83 b84 b85 b86 b87 b88 b89 b90 b91 b92 b93 b94 b95 b96 b97 b98 b99 b100 b101 b102 b103 b104 b105 b106 b107 b108 b109 b110 b111 b112 b113 b114 b115 b116 b117 b118 b119 b120 b121 b122 b123 b124 b125 b126 b127 b128 b129 b130 b131 b132 b133 b134 b135 b136 b137 b138 b139 b140 b141 b142 b143 b144 b145 b146 b147 b148 b149 b150 b151 b152 b153 b154 b155 b156 b157 b158 b159 b160 b161 b162 b163 := by
  refine P.eq_fromCheckpoint _ 6 _ ?_ ?_ h <;> rfl
theorem fromCheckpoint7_eq (b0 b1 b2 b3 b4 b5 b6 b7 b8 b9 b10 b11 b12 b13 b14 b15 b16 b17 b18 b19 b20 b21 b22 b23 b24 b25 b26 b27 b28 b29 b30 b31 b32 b33 b34 b35 b36 b37 b38 b39 b40 b41 b42 b43 b44 b45 b46 b47 b48 b49 b50 b51 b52 b53 b54 b55 b56 b57 b58 b59 b60 b61 b62 b63 b64 b65 b66 b67 b68 b69 b70 b71 b72 b73 b74 b75 b76 b77 b78 b79 b80 b81 b82 b83 b84 b85 b86 b87 b88 b89 b90 b91 b92 b93 b94 b95 b96 b97 b98 b99 b100 b101 b102 b103 b104 b105 b106 b107 b108 b109 b110 b111 b112 b113 b114 b115 b116 b117 b118 b119 b120 b121 b122 b123 b124 b125 b126 b127 b128 b129 b130 b131 b132 b133 b134 b135 b136 b137 b138 b139 b140 b141 b142 b143 b144 b145 b146 b147 b148 b149 b150 b151 b152 b153 b154 b155 b156 b157 b158 b159 b160 b161 b162 b163 : BitVec 8) (h : min (HH.le32 [b160, b161, b162, b163]).toNat 31 = 7) :
    P.fromCheckpoint [b0, b1, b2, b3, b4, b5, b6, b7, b8, b9, b10, b11, b12, b13, b14, b15, b16, b17, b18, b19, b20, b21, b22, b23, b24, b25, b26, b27, b28, b29, b30, b31, b32, b33, b34, b35, b36, b37, b38, b39, b40, b41, b42, b43, b44, b45, b46, b47, b48, b49, b50, b51, b52, b53, b54, b55, b56, b57, b58, b59, b60, b61, b62, b63, b64, b65, b66, b67, b68, b69, b70, b71, b72, b73, b74, b75, b76, b77, b78, b79, b80, b81, b82, b83, b84, b85, b86, b87, b88, b89, b90, b91, b92, b93, b94, b95, b96, b97, b98, b99, b100, b101, b102, b103, b104, b105, b106, b107, b108, b109, b110, b111, b112, b113, b114, b115, b116, b117, b118, b119, b120, b121, b122, b123, b124, b125, b126, b127, b128, b129, b130, b131, b132, b133, b134, b135, b136, b137, b138, b139, b140, b141, b142, b143, b144, b145, b146, b147, b148, b149, b150, b151, b152, b153, b154, b155, b156, b157, b158, b159, b160, b161, b162, b163] = fromCheckpoint7 b0 b1 b2 b3 b4 b5 b6 b7 b8 b9 b10 b11 b12 b13 b14 b15 b16 b17 b18 b19 b20 b21 b22 b23 b24 b25 b26 b27 b28 b29 b30 b31 b32 b33 b34 b35 b36 b37 b38 b39 b40 b41 b42 b43 b44 b45 b46 b47 b48 b49 b50 b51 b52 b53 b54 b55 b56 b57 b58 b59 b60 b61 b62 b63 b64 b65 b66 b67 b68 b69 b70 b71 b72 b73 b74 b75 b76 b77 b78 b79 b80 b81 b82 b83 b84 b85 b86 b87 b88 b89 b90 b91 b92 b93 b94 b95 b96 b97 b98 b99 b100 b101 b102 b103 b104 b105 b106 b107 b108 b109 b110 b111 b112 b113 b114 b115 b116 b117 b118 b119 b120 b121 b122 b123 b124 b125 b126 b127 b128 b129 b130 b131 b132 b133 b134 b135 b136 b137 b138 b139 b140 b141 b142 b143 b144 b145 b146 b147 b148 b149 b150 b151 b152 b153 b154 b155 b156 b157 b158 b159 b160 b161 b162 b163 := by
  refine P.eq_fromCheckpoint _ 7 _ ?_ ?_ h <;> rfl
theorem fromCheckpoint8_eq (b0 b1 b2 b3 b4 b5 b6 b7 b8 b9 b10 b11 b12 b13 b14 b15 b16 b17 b18 b19 b20 b21 b22 b23 b24 b25 b26 b27 b28 b29 b30 b31 b32 b33 b34 b35 b36 b37 b38 b39 b40 b41 b42 b43 b44 b45 b46 b47 b48 b49 b50 b51 b52 b53 b54 b55 b56 b57 b58 b59 b60 b61 b62 b63 b64 b65 b66 b67 b68 b69 b70 b71 b72 b73 b74 b75 b76 b77 b78 b79 b80 b81 b82 b83 b84 b85 b86 b87 b88 b89 b90 b91 b92 b93 b94 b95 b96 b97 b98 b99 b100 b101 b102 b103 b104 b105 b106 b107 b108 b109 b110 b111 b112 b113 b114 b115 b116 b117 b118 b119 b120 b121 b122 b123 b124 b125 b126 b127 b128 b129 b130 b131 b132 b133 b134 b135 b136 b137 b138 b139 b140 b141 b142 b143 b144 b145 b146 b147 b148 b149 b150 b151 b152 b153 b154 b155 b156 b157 b158 b159 b160 b161 b162 b163 : BitVec 8) (h : min (HH.le32 [b160, b161, b162, b163]).toNat 31 = 8) :
    P.fromCheckpoint [b0, b1, b2, b3, b4, b5, b6, b7, b8, b9, b10, b11, b12, b13, b14, b15, b16, b17, b18, b19, b20, b21, b22, b23, b24, b25, b26, b27, b28, b29, b30, b31, b32, b33, b34, b35, b36, b37, b38, b39, b40, b41, b42, b43, b44, b45, b46, b47, b48, b49, b50, b51, b52, b53, b54, b55, b56, b57, b58, b59, b60, b61, b62, b63, b64, b65, b66, b67, b68, b69, b70, b71, b72, b73, b74, b75, b76, b77, b78, b79, b80, b81, b82, b83, b84, b85, b86, b87, b88, b89, b90, b91, b92, b93, b94, b95, b96, b97, b98, b99, b100, b101, b102, b103, b104, b105, b106, b107, b108, b109, b110, b111, b112, b113, b114, b115, b116, b117, b118, b119, b120, b121, b122, b123, b124, b125, b126, b127, b128, b129, b130, b131, b132, b133, b134, b135, b136, b137, b138, b139, b140, b141, b142, b143, b144, b145, b146, b147, b148, b149, b150, b151, b152, b153, b154, b155, b156, b157, b158, b159, b160, b161, b162, b163] = fromCheckpoint8 b0 b1 b2 b3 b4 b5 b6 b7 b8 b9 b10 b11 b12 b13 b14 b15 b16 b17 b18 b19 b20 b21 b22 b23 b24 b25 b26 b27 b28 b29 b30 b31 b32 b33 b34 b35 b36 b37 b38 b39 b40 b41 b42 b43 b44 b45 b46 b47 b48 b49 b50 b51 b52 b53 b54 b55 b56 b57 b58 b59 b60 b61 b62 b63 b64 b65 b66 b67 b68 b69 b70 b71 b72 b73 b74 b75 b76 b77 b78 b79 b80 b81 b82 b83 b84 b85 b86 b87 b88 b89 b90 b91 b92 b93 b94 b95 b96 b97 b98 b99 b100 b101 b102 b103 b104 b105 b106 b107 b108 b109 b110 b111 b112 b113 b114 b115 b116 b117 b118 b119 b120 b121 b122 b123 b124 b125 b126 b127 b128 b129 b130 b131 b132 b133 b134 b135 b136 b137 b138 b139 b140 b141 b142 b143 b144 b145 b146 b147 b148 b149 b150 b151 b152 b153 b154 b155 b156 b157 b158 b159 b160 b161 b162 b163 := by
  refine P.eq_fromCheckpoint _ 8 _ ?_ ?_ h <;> rfl
theorem fromCheckpoint9_eq (b0 b1 b2 b3 b4 b5 b6 b7 b8 b9 b10 b11 b12 b13 b14 b15 b16 b17 b18 b19 b20 b21 b22 b23 b24 b25 b26 b27 b28 b29 b30 b31 b32 b33 b34 b35 b36 b37 b38 b39 b40 b41 b42 b43 b44 b45 b46 b47 b48 b49 b50 b51 b52 b53 b54 b55 b56 b57 b58 b59 b60 b61 b62 b63 b64 b65 b66 b67 b68 b69 b70 b71 b72 b73 b74 b75 b76 b77 b78 b79 b80 b81 b82 b83 b84 b85 b86 b87 b88 b89 b90 b91 b92 b93 b94 b95 b96 b97 b98 b99 b100 b101 b102 b103 b104 b105 b106 b107 b108 b109 b110 b111 b112 b113 b114 b115 b116 b117 b118 b119 b120 b121 b122 b123 b124 b125 b126 b127 b128 b129 b130 b131 b132 b133 b134 b135 b136 b137 b138 b139 b140 b141 b142 b143 b144 b145 b146 b147 b148 b149 b150 b151 b152 b153 b154 b155 b156 b157 b158 b159 b160 b161 b162 b163 : BitVec 8) (h : min (HH.le32 [b160, b161, b162, b163]).toNat 31 = 9) :
    P.fromCheckpoint [b0, b1, b2, b3, b4, b5, b6, b7, b8, b9, b10, b11, b12, b13, b14, b15, b16, b17, b18, b19, b20, b21, b22, b23, b24, b25, b26, b27, b28, b29, b30, b31, b32, b33, b34, b35, b36, b37, b38, b39, b40, b41, b42, b43, b44, b45, b46, b47, b48, b49, b50, b51, b52, b53, b54, b55, b56, b57, b58, b59, b60, b61, b62, b63, b64, b65, b66, b67, b68, b69, b70, b71, b72, b73, b74, b75, b76, b77, b78, b79, b80, b81, b82, b83, b84, b85, b86, b87, b88, b89, b90, b91, b92, b93, b94, b95, b96, b97, b98, b99, b100, b101, b102, b103, b104, b105, b106, b107, b108, b109, b110, b111, b112, b113, b114, b115, b116, b117, b118, b119, b120, b121, b122, b123, b124, b125, b126, b127, b128, b129, b130, b131, b132, b133, b134, b135, b136, b137, b138, b139, b140, b141, b142, b143, b144, b145, b146, b147, b148, b149, b150, b151, b152, b153, b154, b155, b156, b157, b158, b159, b160, b161, b162, b163] = fromCheckpoint9 b0 b1 b2 b3 b4 b5 b6 b7 b8 b9 b10 b11 b12 b13 b14 b15 b16 b17 b18 b19 b20 b21 b22 b23 b24 b25 b26 b27 b28 b29 b30 b31 b32 b33 b34 b35 b36 b37 b38 b39 b40 b41 b42 b43 b44 b45 b46 b47 b48 b49 b50 b51 b52 b53 b54 b55 b56 b57 b58 b59 b60 b61 b62 b63 b64 b65 b66 b67 b68 b69 b70 b71 b72 b73 b74 b75 b76 b77 b78 b79 b80 b81 b82 b83 b84 b85 b86 b87 b88 b89 b90 b91 b92 b93 b94 b95 b96 b97 b98 b99 b100 b101 b102 b103 b104 b105 b106 b107 b108 b109 b110 b111 b112 b113 b114 b115 b116 b117 b118 b119 b120 b121 b122 b123 b124 b125 b126 b127 b128 b129 b130 b131 b132 b133 b134 b135 b136 b137 b138 b139 b140 b141 b142 b143 b144 b145 b146 b147 b148 b149 b150 b151 b152 b153 b154 b155 b156 b157 b158 b159 b160 b161 b162 b163 := by
  refine P.eq_fromCheckpoint _ 9 _ ?_ ?_ h <;> rfl
theorem fromCheckpoint10_eq (b0 b1 b2 b3 b4 b5 b6 b7 b8 b9 b10 b11 b12 b13 b14 b15 b16 b17 b18 b19 b20 b21 b22 b23 b24 b25 b26 b27 b28 b29 b30 b31 b32 b33 b34 b35 b36 b37 b38 b39 b40 b41 b42 b43 b44 b45 b46 b47 b48 b49 b50 b51 b52 b53 b54 b55 b56 b57 b58 b59 b60 b61 b62 b63 b64 b65 b66 b67 b68 b69 b70 b71 b72 b73 b74 b75 b76 b77 b78 b79 b80 b81 b82 b83 b84 b85 b86 b87 b88 b89 b90 b91 b92 b93 b94 b95 b96 b97 b98 b99 b100 b101 b102 b103 b104 b105 b106 b107 b108 b109 b110 b111 b112 b113 b114 b115 b116 b117 b118 b119 b120 b121 b122 b123 b124 b125 b126 b127 b128 b129 b130 b131 b132 b133 b134 b135 b136 b137 b138 b139 b140 b141 b142 b143 b144 b145 b146 b147 b148 b149 b150 b151 b152 b153 b154 b155 b156 b157 b158 b159 b160 b161 b162 b163 : BitVec 8) (h : min (HH.le32 [b160, b161, b162, b163]).toNat 31 = 10) :
    P.fromCheckpoint [b0, b1, b2, b3, b4, b5, b6, b7, b8, b9, b10, b11, b12, b13, b14, b15, b16, b17, b18, b19, b20, b21, b22, b23, b24, b25, b26, b27, b28, b29, b30, b31, b32, b33, b34, b35, b36, b37, b38, b39, b40, b41, b42, b43, b44, b45, b46, b47, b48, b49, b50, b51, b52, b53, b54, b55, b56, b57, b58, b59, b60, b61, b62, b63, b64, b65, b66, b67, b68, b69, b70, b71, b72, b73, b74, b75, b76, b77, b78, b79, b80, b81, b82, b83, b84, b85, b86, b87, b88, b89, b90, b91, b92, b93, b94, b95, b96, b97, b98, b99, b100, b101, b102, b103, b104, b105, b106, b107, b108, b109, b110, b111, b112, b113, b114, b115, b116, b117, b118, b119, b120, b121, b122, b123, b124, b125, b126, b127, b128, b129, b130, b131, b132, b133, b134, b135, b136, b137, b138, b139, b140, b141, b142, b143, b144, b145, b146, b147, b148, b149, b150, b151, b152, b153, b154, b155, b156, b157, b158, b159, b160, b161, b162, b163] = fromCheckpoint10 b0 b1 b2 b3 b4 b5 b6 b7 b8 b9 b10 b11 b12 b13 b14 b15 b16 b17 b18 b19 b20 b21 b22 b23 b24 b25 b26 b27 b28 b29 b30 b31 b32 b33 b34 b35 b36 b37 b38 b39 b40 b41 b42 b43 b44 b45 b46 b47 b48 b49 b50 b51 b52 b53 b54 b55 b56 b57 b58 b59 b60 b61 b62 b63 b64 b65 b66 b67 b68 b69 b70 b71 b72 b73 b74 b75 b76 b77 b78 b79 b80 b81 b82 b83 b84 b85 b86 b87 b88 b89 b90 b91 b92 b93 b94 b95 b96 b97 b98 b99 b100 b101 b102 b103 b104 b105 b106 b107 b108 b109 b110 b111 b112 b113 b114 b115 b116 b117 b118 b119 b120 b121 b122 b123 b124 b125 b126 b127 b128 b129 b130 b131 b132 b133 b134 b135 b136 b137 b138 b139 b140 b141 b142 b143 b144 b145 b146 b147 b148 b149 b150 b151 b152 b153 b154 b155 b156 b157 b158 b159 b160 b161 b162 b163 := by
  refine P.eq_fromCheckpoint _ 10 _ ?_ ?_ h <;> rfl
theorem fromCheckpoint11_eq (b0 b1 b2 b3 b4 b5 b6 b7 b8 b9 b10 b11 b12 b13 b14 b15 b16 b17 b18 b19 b20 b21 b22 b23 b24 b25 b26 b27 b28 b29 b30 b31 b32 b33 b34 b35 b36 b37 b38 b39 b40 b41 b42 b43 b44 b45 b46 b47 b48 b49 b50 b51 b52 b53 b54 b55 b56 b57 b58 b59 b60 b61 b62 b63 b64 b65 b66 b67 b68 b69 b70 b71 b72 b73 b74 b75 b76 b77 b78 b79 b80 b81 b82 b83 b84 b85 b86 b87 b88 b89 b90 b91 b92 b93 b94 b95 b96 b97 b98 b99 b100 b101 b102 b103 b104 b105 b106 b107 b108 b109 b110 b111 b112 b113 b114 b115 b116 b117 b118 b119 b120 b121 b122 b123 b124 b125 b126 b127 b128 b129 b130 b131 b132 b133 b134 b135 b136 b137 b138 b139 b140 b141 b142 b143 b144 b145 b146 b147 b148 b149 b150 b151 b152 b153 b154 b155 b156 b157 b158 b159 b160 b161 b162 b163 : BitVec 8) (h : min (HH.le32 [b160, b161, b162, b163]).toNat 31 = 11) :
    P.fromCheckpoint [b0, b1, b2, b3, b4, b5, b6, b7, b8, b9, b10, b11, b12, b13, b14, b15, b16, b17, b18, b19, b20, b21, b22, b23, b24, b25, b26, b27, b28, b29, b30, b31, b32, b33, b34, b35, b36, b37, b38, b39, b40, b41, b42, b43, b44, b45, b46, b47, b48, b49, b50, b51, b52, b53, b54, b55, b56, b57, b58, b59, b60, b61, b62, b63, b64, b65, b66, b67, b68, b69, b70, b71, b72, b73, b74, b75, b76, b77, b78, b79, b80, b81, b82, b83, b84, b85, b86, b87, b88, b89, b90, b91, b92, b93, b94, b95, b96, b97, b98, b99, b100, b101, b102, b103, b104, b105, b106, b107, b108, b109, b110, b111, b112, b113, b114, b115, b116, b117, b118, b119, b120, b121, b122, b123, b124, b125, b126, b127, b128, b129, b130, b131, b132, b133, b134, b135, b136, b137, b138, b139, b140, b141, b142, b143, b144, b145, b146, b147, b148, b149, b150, b151, b152, b153, b154, b155, b156, b157, b158, b159, b160, b161, b162, b163] = fromCheckpoint11 b0 b1 b2 b3 b4 b5 b6 b7 b8 b9 b10 b11 b12 b13 b14 b15 b16 b17 b18 b19 b20 b21 b22 b23 b24 b25 b26 b27 b28 b29 b30 b31 b32 b33 b34 b35 b36 b37 b38 b39 b40 b41 b42 b43 b44 b45 b46 b47 b48 b49 b50 b51 b52 b53 b54 b55 b56 b57 b58 b59 b60 b61 b62 b63 b64 b65 b66 b67 b68 b69 b70 b71 b72 b73 b74 b75 b76 b77 b78 b79 b80 b81 b82 b83 b84 b85 b86 b87 b88 b89 b90 b91 b92 b93 b94 b95 b96 b97 b98 b99 b100 b101 b102 b103 b104 b105 b106 b107 b108 b109 b110 b111 b112 b113 b114 b115 b116 b117 b118 b119 b120 b121 b122 b123 b124 b125 b126 b127 b128 b129 b130 b131 b132 b133 b134 b135 b136 b137 b138 b139 b140 b141 b142 b143 b144 b145 b146 b147 b148 b149 b150 b151 b152 b153 b154 b155 b156 b157 b158 b159 b160 b161 b162 b163 := by
  refine P.eq_fromCheckpoint _ 11 _ ?_ ?_ h <;> rfl
theorem fromCheckpoint12_eq (b0 b1 b2 b3 b4 b5 b6 b7 b8 b9 b10 b11 b12 b13 b14 b15 b16 b17 b18 b19 b20 b21 b22 b23 b24 b25 b26 b27 b28 b29 b30 b31 b32 b33 b34 b35 b36 b37 b38 b39 b40 b41 b42 b43 b44 b45 b46 b47 b48 b49 b50 b51 b52 b53 b54 b55 b56 b57 b58 b59 b60 b61 b62 b63 b64 b65 b66 b67 b68 b69 b70 b71 b72 b73 b74 b75 b76 b77 b78 b79 b80 b81 b82 b83 b84 b85 b86 b87 b88 b89 b90 b91 b92 b93 b94 b95 b96 b97 b98 b99 b100 b101 b102 b103 b104 b105 b106 b107 b108 b109 b110 b111 b112 b113 b114 b115 b116 b117 b118 b119 b120 b121 b122 b123 b124 b125 b126 b127 b128 b129 b130 b131 b132 b133 b134 b135 b136 b137 b138 b139 b140 b141 b142 b143 b144 b145 b146 b147 b148 b149 b150 b151 b152 b153 b154 b155 b156 b157 b158 b159 b160 b161 b162 b163 : BitVec 8) (h : min (HH.le32 [b160, b161, b162, b163]).toNat 31 = 12) :
    P.fromCheckpoint [b0, b1, b2, b3, b4, b5, b6, b7, b8, b9, b10, b11, b12, b13, b14, b15, b16, b17, b18, b19, b20, b21, b22, b23, b24, b25, b26, b27, b28, b29, b30, b31, b32, b33, b34, b35, b36, b37, b38, b39, b40, b41, b42, b43, b44, b45, b46, b47, b48, b49, b50, b51, b52, b53, b54, b55, b56, b57, b58, b59, b60, b61, b62, b63, b64, b65, b66, b67, b68, b69, b70, b71, b72, b73, b74, b75, b76, b77, b78, b79, b80, b81, b82, b83, b84, b85, b86, b87, b88, b89, b90, b91, b92, b93, b94, b95, b96, b97, b98, b99, b100, b101, b102, b103, b104, b105, b106, b107, b108, b109, b110, b111, b112, b113, b114, b115, b116, b117, b118, b119, b120, b121, b122, b123, b124, b125, b126, b127, b128, b129, b130, b131, b132, b133, b134, b135, b136, b137, b138, b139, b140, b141, b142, b143, b144, b145, b146, b147, b148, b149, b150, b151, b152, b153, b154, b155, b156, b157, b158, b159, b160, b161, b162, b163] = fromCheckpoint12 b0 b1 b2 b3 b4 b5 b6 b7 b8 b9 b10 b11 b12 b13 b14 b15 b16 b17 b18 b19 b20 b21 b22 b23 b24 b25 b26 b27 b28 b29 b30 b31 b32 b33 b34 b35 b36 b37 b38 b39 b40 b41 b42 b43 b44 b45 b46 b47 b48 b49 b50 b51 b52 b53 b54 b55 b56 b57 b58 b59 b60 b61 b62 b63 b64 b65 b66 b67 b68 b69 b70 b71 b72 b73 b74 b75 b76 b77 b78 b79 b80 b81 b82 b83 b84 b85 b86 b87 b88 b89 b90 b91 b92 b93 b94 b95 b96 b97 b98 b99 b100 b101 b102 b103 b104 b105 b106 b107 b108 b109 b110 b111 b112 b113 b114 b115 b116 b117 b118 b119 b120 b121 b122 b123 b124 b125 b126 b127 b128 b129 b130 b131 b132 b133 b134 b135 b136 b137 b138 b139 b140 b141 b142 b143 b144 b145 b146 b147 b148 b149 b150 b151 b152 b153 b154 b155 b156 b157 b158 b159 b160 b161 b162 b163 := by
  refine P.eq_fromCheckpoint _ 12 _ ?_ ?_ h <;> rfl
theorem fromCheckpoint13_eq (b0 b1 b2 b3 b4 b5 b6 b7 b8 b9 b10 b11 b12 b13 b14 b15 b16 b17 b18 b19 b20 b21 b22 b23 b24 b25 b26 b27 b28 b29 b30 b31 b32 b33 b34 b35 b36 b37 b38 b39 b40 b41 b42 b43 b44 b45 b46 b47 b48 b49 b50 b51 b52 b53 b54 b55 b56 b57 b58 b59 b60 b61 b62 b63 b64 b65 b66 b67 b68 b69 b70 b71 b72 b73 b74 b75 b76 b77 b78 b79 b80 b81 b82 b83 b84 b85 b86 b87 b88 b89 b90 b91 b92 b93 b94 b95 b96 b97 b98 b99 b100 b101 b102 b103 b104 b105 b106 b107 b108 b109 b110 b111 b112 b113 b114 b115 b116 b117 b118 b119 b120 b121 b122 b123 b124 b125 b126 b127 b128 b129 b130 b131 b132 b133 b134 b135 b136 b137 b138 b139 b140 b141 b142 b143 b144 b145 b146 b147 b148 b149 b150 b151 b152 b153 b154 b155 b156 b157 b158 b159 b160 b161 b162 b163 : BitVec 8) (h : min (HH.le32 [b160, b161, b162, b163]).toNat 31 = 13) :
    P.fromCheckpoint [b0, b1, b2, b3, b4, b5, b6, b7, b8, b9, b10, b11, b12, b13, b14, b15, b16, b17, b18, b19, b20, b21, b22, b23, b24, b25, b26, b27, b28, b29, b30, b31, b32, b33, b34, b35, b36, b37, b38, b39, b40, b41, b42, b43, b44, b45, b46, b47, b48, b49, b50, b51, b52, b53, b54, b55, b56, b57, b58, b59, b60, b61, b62, b63, b64, b65, b66, b67, b68, b69, b70, b71, b72, b73, b74, b75, b76, b77, b78, b79, b80, b81, b82, b83, b84, b85, b86, b87, b88, b89, b90, b91, b92, b93, b94, b95, b96, b97, b98, b99, b100, b101, b102, b103, b104, b105, b106, b107, b108, b109, b110, b111, b112, b113, b114, b115, b116, b117, b118, b119, b120, b121, b122, b123, b124, b125, b126, b127, b128, b129, b130, b131, b132, b133, b134, b135, b136, b137, b138, b139, b140, b141, b142, b143, b144, b145, b146, b147, b148, b149, b150, b151, b152, b153, b154, b155, b156, b157, b158, b159, b160, b161, b162, b163] = fromCheckpoint13 b0 b1 b2 b3 b4 b5 b6 b7 b8 b9 b10 b11 b12 b13 b14 b15 b16 b17 b18 b19 b20 b21 b22 b23 b24 b25 b26 b27 b28 b29 b30 b31 b32 b33 b34 b35 b36 b37 b38 b39 b40 b41 b42 b43 b44 b45 b46 b47 b48 b49 b50 b51 b52 b53 b54 b55 b56 b57 b58 b59 b60 b61 b62 b63 b64 b65 b66 b67 b68 b69 b70 b71 b72 b73 b74 b75 b76 b77 b78 b79 b80 b81 b82 b83 b84 b85 b86 b87 b88 b89 b90 b91 b92 b93 b94 b95 b96 b97 b98 b99 b100 b101 b102 b103 b104 b105 b106 b107 b108 b109 b110 b111 b112 b113 b114 b115 b116 b117 b118 b119 b120 b121 b122 b123 b124 b125 b126 b127 b128 b129 b130 b131 b132 b133 b134 b135 b136 b137 b138 b139 b140 b141 b142 b143 b144 b145 b146 b147 b148 b149 b150 b151 b152 b153 b154 b155 b156 b157 b158 b159 b160 b161 b162 b163 := by
  refine P.eq_fromCheckpoint _ 13 _ ?_ ?_ h <;> rfl
theorem fromCheckpoint14_eq (b0 b1 b2 b3 b4 b5 b6 b7 b8 b9 b10 b11 b12 b13 b14 b15 b16 b17 b18 b19 b20 b21 b22 b23 b24 b25 b26 b27 b28 b29 b30 b31 b32 b33 b34 b35 b36 b37 b38 b39 b40 b41 b42 b43 b44 b45 b46 b47 b48 b49 b50 b51 b52 b53 b54 b55 b56 b57 b58 b59 b60 b61 b62 b63 b64 b65 b66 b67 b68 b69 b70 b71 b72 b73 b74 b75 b76 b77 b78 b79 b80 b81 b82 b83 b84 b85 b86 b87 b88 b89 b90 b91 b92 b93 b94 b95 b96 b97 b98 b99 b100 b101 b102 b103 b104 b105 b106 b107 b108 b109 b110 b111 b112 b113 b114 b115 b116 b117 b118 b119 b120 b121 b122 b123 b124 b125 b126 b127 b128 b129 b130 b131 b132 b133 b134 b135 b136 b137 b138 b139 b140 b141 b142 b143 b144 b145 b146 b147 b148 b149 b150 b151 b152 b153 b154 b155 b156 b157 b158 b159 b160 b161 b162 b163 : BitVec 8) (h : min (HH.le32 [b160, b161, b162, b163]).toNat 31 = 14) :
    P.fromCheckpoint [b0, b1, b2, b3, b4, b5, b6, b7, b8, b9, b10, b11, b12, b13, b14, b15, b16, b17, b18, b19, b20, b21, b22, b23, b24, b25, b26, b27, b28, b29, b30, b31, b32, b33, b34, b35, b36, b37, b38, b39, b40, b41, b42, b43, b44, b45, b46, b47, b48, b49, b50, b51, b52, b53, b54, b55, b56, b57, b58, b59, b60, b61, b62, b63, b64, b65, b66, b67, b68, b69, b70, b71, b72, b73, b74, b75, b76, b77, b78, b79, b80, b81, b82, b83, b84, b85, b86, b87, b88, b89, b90, b91, b92, b93, b94, b95, b96, b97, b98, b99, b100, b101, b102, b103, b104, b105, b106, b107, b108, b109, b110, b111, b112, b113, b114, b115, b116, b117, b118, b119, b120, b121, b122, b123, b124, b125, b126, b127, b128, b129, b130, b131, b132, b133, b134, b135, b136, b137, b138, b139, b140, b141, b142, b143, b144, b145, b146, b147, b148, b149, b150, b151, b152, b153, b154, b155, b156, b157, b158, b159, b160, b161, b162, b163] = fromCheckpoint14 b0 b1 b2 b3 b4 b5 b6 b7 b8 b9 b10 b11 b12 b13 b14 b15 b16 b17 b18 b19 b20 b21 b22 b23 b24 b25 b26 b27 b28 b29 b30 b31 b32 b33 b34 b35 b36 b37 b38 b39 b40 b41 b42 b43 b44 b45 b46 b47 b48 b49 b50 b51 b52 b53 b54 b55 b56 b57 b58 b59 b60 b61 b62 b63 b64 b65 b66 b67 b68 b69 b70 b71 b72 b73 b74 b75 b76 b77 b78 b79 b80 b81 b82 b83 b84 b85 b86 b87 b88 b89 b90 b91 b92 b93 b94 b95 b96 b97 b98 b99 b100 b101 b102 b103 b104 b105 b106 b107 b108 b109 b110 b111 b112 b113 b114 b115 b116 b117 b118 b119 b120 b121 b122 b123 b124 b125 b126 b127 b128 b129 b130 b131 b132 b133 b134 b135 b136 b137 b138 b139 b140 b141 b142 b143 b144 b145 b146 b147 b148 b149 b150 b151 b152 b153 b154 b155 b156 b157 b158 b159 b160 b161 b162 b163 := by
  refine P.eq_fromCheckpoint _ 14 _ ?_ ?_ h <;> rfl
theorem fromCheckpoint15_eq (b0 b1 b2 b3 b4 b5 b6 b7 b8 b9 b10 b11 b12 b13 b14 b15 b16 b17 b18 b19 b20 b21 b22 b23 b24 b25 b26 b27 b28 b29 b30 b31 b32 b33 b34 b35 b36 b37 b38 b39 b40 b41 b42 b43 b44 b45 b46 b47 b48 b49 b50 b51 b52 b53 b54 b55 b56 b57 b58 b59 b60 b61 b62 b63 b64 b65 b66 b67 b68 b69 b70 b71 b72 b73 b74 b75 b76 b77 b78 b79 b80 b81 b82 b83 b84 b85 b86 b87 b88 b89 b90 b91 b92 b93 b94 b95 b96 b97 b98 b99 b100 b101 b102 b103 b104 b105 b106 b107 b108 b109 b110 b111 b112 b113 b114 b115 b116 b117 b118 b119 b120 b121 b122 b123 b124 b125 b126 b127 b128 b129 b130 b131 b132 b133 b134 b135 b136 b137 b138 b139 b140 b141 b142 b143 b144 b145 b146 b147 b148 b149 b150 b151 b152 b153 b154 b155 b156 b157 b158 b159 b160 b161 b162 b163 : BitVec 8) (h : min (HH.le32 [b160, b161, b162, b163]).toNat 31 = 15) :
    P.fromCheckpoint [b0, b1, b2, b3, b4, b5, b6, b7, b8, b9, b10, b11, b12, b13, b14, b15, b16, b17, b18, b19, b20, b21, b22, b23, b24, b25, b26, b27, b28, b29, b30, b31, b32, b33, b34, b35, b36, b37, b38, b39, b40, b41, b42, b43, b44, b45, b46, b47, b48, b49, b50, b51, b52, b53, b54, b55, b56, b57, b58, b59, b60, b61, b62, b63, b64, b65, b66, b67, b68, b69, b70, b71, b72, b73, b74, b75, b76, b77, b78, b79, b80, b81, b82, b83, b84, b85, b86, b87, b88, b89, b90, b91, b92, b93, b94, b95, b96, b97, b98, b99, b100, b101, b102, b103, b104, b105, b106, b107, b108, b109, b110, b111, b112, b113, b114, b115, b116, b117, b118, b119, b120, b121, b122, b123, b124, b125, b126, b127, b128, b129, b130, b131, b132, b133, b134, b135, b136, b137, b138, b139, b140, b141, b142, b143, b144, b145, b146, b147, b148, b149, b150, b151, b152, b153, b154, b155, b156, b157, b158, b159, b160, b161, b162, b163] = fromCheckpoint15 b0 b1 b2 b3 b4 b5 b6 b7 b8 b9 b10 b11 b12 b13 b14 b15 b16 b17 b18 b19 b20 b21 b22 b23 b24 b25 b26 b27 b28 b29 b30 b31 b32 b33 b34 b35 b36 b37 b38 b39 b40 b41 b42 b43 b44 b45 b46 b47 b48 b49 b50 b51 b52 b53 b54 b55 b56 b57 b58 b59 b60 b61 b62 b63 b64 b65 b66 b67 b68 b69 b70 b71 b72 b73 b74 b75 b76 b77 b78 b79 b80 b81 b82 b83 b84 b85 b86 b87 b88 b89 b90 b91 b92 b93 b94 b95 b96 b97 b98 b99 b100 b101 b102 b103 b104 b105 b106 b107 b108 b109 b110 b111 b112 b113 b114 b115 b116 b117 b118 b119 b120 b121 b122 b123 b124 b125 b126 b127 b128 b129 b130 b131 b132 b133 b134 b135 b136 b137 b138 b139 b140 b141 b142 b143 b144 b145 b146 b147 b148 b149 b150 b151 b152 b153 b154 b155 b156 b157 b158 b159 b160 b161 b162 b163 := by
  refine P.eq_fromCheckpoint _ 15 _ ?_ ?_ h <;> rfl
theorem fromCheckpoint16_eq (b0 b1 b2 b3 b4 b5 b6 b7 b8 b9 b10 b11 b12 b13 b14 b15 b16 b17 b18 b19 b20 b21 b22 b23 b24 b25 b26 b27 b28 b29 b30 b31 b32 b33 b34 b35 b36 b37 b38 b39 b40 b41 b42 b43 b44 b45 b46 b47 b48 b49 b50 b51 b52 b53 b54 b55 b56 b57 b58 b59 b60 b61 b62 b63 b64 b65 b66 b67 b68 b69 b70 b71 b72 b73 b74 b75 b76 b77 b78 b79 b80 b81 b82 b83 b84 b85 b86 b87 b88 b89 b90 b91 b92 b93 b94 b95 b96 b97 b98 b99 b100 b101 b102 b103 b104 b105 b106 b107 b108 b109 b110 b111 b112 b113 b114 b115 b116 b117 b118 b119 b120 b121 b122 b123 b124 b125 b126 b127 b128 b129 b130 b131 b132 b133 b134 b135 b136 b137 b138 b139 b140 b141 b142 b143 b144 b145 b146 b147 b148 b149 b150 b151 b152 b153 b154 b155 b156 b157 b158 b159 b160 b161 b162 b163 : BitVec 8) (h : min (HH.le32 [b160, b161, b162, b163]).toNat 31 = 16) :
    P.fromCheckpoint [b0, b1, b2, b3, b4, b5, b6, b7, b8, b9, b10, b11, b12, b13, b14, b15, b16, b17, b18, b19, b20, b21, b22, b23, b24, b25, b26, b27, b28, b29, b30, b31, b32, b33, b34, b35, b36, b37, b38, b39, b40, b41, b42, b43, b44, b45, b46, b47, b48, b49, b50, b51, b52, b53, b54, b55, b56, b57, b58, b59, b60, b61, b62, b63, b64, b65, b66, b67, b68, b69, b70, b71, b72, b73, b74, b75, b76, b77, b78, b79, b80, b81, b82, b83, b84, b85, b86, b87, b88, b89, b90, b91, b92, b93, b94, b95, b96, b97, b98, b99, b100, b101, b102, b103, b104, b105, b106, b107, b108, b109, b110, b111, b112, b113, b114, b115, b116, b117, b118, b119, b120, b121, b122, b123, b124, b125, b126, b127, b128, b129, b130, b131, b132, b133, b134, b135, b136, b137, b138, b139, b140, b141, b142, b143, b144, b145, b146, b147, b148, b149, b150, b151, b152, b153, b154, b155, b156, b157, b158, b159, b160, b161, b162, b163] = fromCheckpoint16 b0 b1 b2 b3 b4 b5 b6 b7 b8 b9 b10 b11 b12 b13 b14 b15 b16 b17 b18 b19 b20 b21 b22 b23 b24 b25 b26 b27 b28 b29 b30 b31 b32 b33 b34 b35 b36 b37 b38 b39 b40 b41 b42 b43 b44 b45 b46 b47 b48 b49 b50 b51 b52 b53 b54 b55 b56 b57 b58 b59 b60 b61 b62 b63 b64 b65 b66 b67 b68 b69 b70 b71 b72 b73 b74 b75 b76 b77 b78 b79 b80 b81 b82 b83 b84 b85 b86 b87 b88 b89 b90 b91 b92 b93 b94 b95 b96 b97 b98 b99 b100 b101 b102 b103 b104 b105 b106 b107 b108 b109 b110 b111 b112 b113 b114 b115 b116 b117 b118 b119 b120 b121 b122 b123 b124 b125 b126 b127 b128 b129 b130 b131 b132 b133 b134 b135 b136 b137 b138 b139 b140 b141 b142 b143 b144 b145 b146 b147 b148 b149 b150 b151 b152 b153 b154 b155 b156 b157 b158 b159 b160 b161 b162 b163 := by
  refine P.eq_fromCheckpoint _ 16 _ ?_ ?_ h <;> rfl
theorem fromCheckpoint17_eq (b0 b1 b2 b3 b4 b5 b6 b7 b8 b9 b10 b11 b12 b13 b14 b15 b16 b17 b18 b19 b20 b21 b22 b23 b24 b25 b26 b27 b28 b29 b30 b31 b32 b33 b34 b35 b36 b37 b38 b39 b40 b41 b42 b43 b44 b45 b46 b47 b48 b49 b50 b51 b52 b53 b54 b55 b56 b57 b58 b59 b60 b61 b62 b63 b64 b65 b66 b67 b68 b69 b70 b71 b72 b73 b74 b75 b76 b77 b78 b79 b80 b81 b82 b83 b84 b85 b86 b87 b88 b89 b90 b91 b92 b93 b94 b95 b96 b97 b98 b99 b100 b101 b102 b103 b104 b105 b106 b107 b108 b109 b110 b111 b112 b113 b114 b115 b116 b117 b118 b119 b120 b121 b122 b123 b124 b125 b126 b127 b128 b129 b130 b131 b132 b133 b134 b135 b136 b137 b138 b139 b140 b141 b142 b143 b144 b145 b146 b147 b148 b149 b150 b151 b152 b153 b154 b155 b156 b157 b158 b159 b160 b161 b162 b163 : BitVec 8) (h : min (HH.le32 [b160, b161, b162, b163]).toNat 31 = 17) :
    P.fromCheckpoint [b0, b1, b2, b3, b4, b5, b6, b7, b8, b9, b10, b11, b12, b13, b14, b15, b16, b17, b18, b19, b20, b21, b22, b23, b24, b25, b26, b27, b28, b29, b30, b31, b32, b33, b34, b35, b36, b37, b38, b39, b40, b41, b42, b43, b44, b45, b46, b47, b48, b49, b50, b51, b52, b53, b54, b55, b56, b57, b58, b59, b60, b61, b62, b63, b64, b65, b66, b67, b68, b69, b70, b71, b72, b73, b74, b75, b76, b77, b78, b79, b80, b81, b82, b83, b84, b85, b86, b87, b88, b89, b90, b91, b92, b93, b94, b95, b96, b97, b98, b99, b100, b101, b102, b103, b104, b105, b106, b107, b108, b109, b110, b111, b112, b113, b114, b115, b116, b117, b118, b119, b120, b121, b122, b123, b124, b125, b126, b127, b128, b129, b130, b131, b132, b133, b134, b135, b136, b137, b138, b139, b140, b141, b142, b143, b144, b145, b146, b147, b148, b149, b150, b151, b152, b153, b154, b155, b156, b157, b158, b159, b160, b161, b162, b163] = fromCheckpoint17 b0 b1 b2 b3 b4 b5 b6 b7 b8 b9 b10 b11 b12 b13 b14 b15 b16 b17 b18 b19 b20 b21 b22 b23 b24 b25 b26 b27 b28 b29 b30 b31 b32 b33 b34 b35 b36 b37 b38 b39 b40 b41 b42 b43 b44 b45 b46 b47 b48 b49 b50 b51 b52 b53 b54 b55 b56 b57 b58 b59 b60 b61 b62 b63 b64 b65 b66 b67 b68 b69 b70 b71 b72 b73 b74 b75 b76 b77 b78 b79 b80 b81 b82 b83 b84 b85 b86 b87 b88 b89 b90 b91 b92 b93 b94 b95 b96 b97 b98 b99 b100 b101 b102 b103 b104 b105 b106 b107 b108 b109 b110 b111 b112 b113 b114 b115 b116 b117 b118 b119 b120 b121 b122 b123 b124 b125 b126 b127 b128 b129 b130 b131 b132 b133 b134 b135 b136 b137 b138 b139 b140 b141 b142 b143 b144 b145 b146 b147 b148 b149 b150 b151 b152 b153 b154 b155 b156 b157 b158 b159 b160 b161 b162 b163 := by
  refine P.eq_fromCheckpoint _ 17 _ ?_ ?_ h <;> rfl
theorem fromCheckpoint18_eq (b0 b1 b2 b3 b4 b5 b6 b7 b8 b9 b10 b11 b12 b13 b14 b15 b16 b17 b18 b19 b20 b21 b22 b23 b24 b25 b26 b27 b28 b29 b30 b31 b32 b33 b34 b35 b36 b37 b38 b39 b40 b41 b42 b43 b44 b45 b46 b47 b48 b49 b50 b51 b52 b53 b54 b55 b56 b57 b58 b59 b60 b61 b62 b63 b64 b65 b66 b67 b68 b69 b70 b71 b72 b73 b74 b75 b76 b77 b78 b79 b80 b81 b82 b83 b84 b85 b86 b87 b88 b89 b90 b91 b92 b93 b94 b95 b96 b97 b98 b99 b100 b101 b102 b103 b104 b105 b106 b107 b108 b109 b110 b111 b112 b113 b114 b115 b116 b117 b118 b119 b120 b121 b122 b123 b124 b125 b126 b127 b128 b129 b130 b131 b132 b133 b134 b135 b136 b137 b138 b139 b140 b141 b142 b143 b144 b145 b146 b147 b148 b149 b150 b151 b152 b153 b154 b155 b156 b157 b158 b159 b160 b161 b162 b163 : BitVec 8) (h : min (HH.le32 [b160, b161, b162, b163]).toNat 31 = 18) :
    P.fromCheckpoint [b0, b1, b2, b3, b4, b5, b6, b7, b8, b9, b10, b11, b12, b13, b14, b15, b16, b17, b18, b19, b20, b21, b22, b23, b24, b25, b26, b27, b28, b29, b30, b31, b32, b33, b34, b35, b36, b37, b38, b39, b40, b41, b42, b43, b44, b45, b46, b47, b48, b49, b50, b51, b52, b53, b54, b55, b56, b57, b58, b59, b60, b61, b62, b63, b64, b65, b66, b67, b68, b69, b70, b71, b72, b73, b74, b75, b76, b77, b78, b79, b80, b81, b82, b83, b84, b85, b86, b87, b88, b89, b90, b91, b92, b93, b94, b95, b96, b97, b98, b99, b100, b101, b102, b103, b104, b105, b106, b107, b108, b109, b110, b111, b112, b113, b114, b115, b116, b117, b118, b119, b120, b121, b122, b123, b124, b125, b126, b127, b128, b129, b130, b131, b132, b133, b134, b135, b136, b137, b138, b139, b140, b141, b142, b143, b144, b145, b146, b147, b148, b149, b150, b151, b152, b153, b154, b155, b156, b157, b158, b159, b160, b161, b162, b163] = fromCheckpoint18 b0 b1 b2 b3 b4 b5 b6 b7 b8 b9 b10 b11 b12 b13 b14 b15 b16 b17 b18 b19 b20 b21 b22 b23 b24 b25 b26 b27 b28 b29 b30 b31 b32 b33 b34 b35 b36 b37 b38 b39 b40 b41 b42 b43 b44 b45 b46 b47 b48 b49 b50 b51 b52 b53 b54 b55 b56 b57 b58 b59 b60 b61 b62 b63 b64 b65 b66 b67 b68 b69 b70 b71 b72 b73 b74 b75 b76 b77 b78 b79 b80 b81 b82 b83 b84 b85 b86 b87 b88 b89 b90 b91 b92 b93 b94 b95 b96 b97 b98 b99 b100 b101 b102 b103 b104 b105 b106 b107 b108 b109 b110 b111 b112 b113 b114 b115 b116 b117 b118 b119 b120 b121 b122 b123 b124 b125 b126 b127 b128 b129 b130 b131 b132 b133 b134 b135 b136 b137 b138 b139 b140 b141 b142 b143 b144 b145 b146 b147 b148 b149 b150 b151 b152 b153 b154 b155 b156 b157 b158 b159 b160 b161 b162 b163 := by
  refine P.eq_fromCheckpoint _ 18 _ ?_ ?_ h <;> rfl
theorem fromCheckpoint19_eq (b0 b1 b2 b3 b4 b5 b6 b7 b8 b9 b10 b11 b12 b13 b14 b15 b16 b17 b18 b19 b20 b21 b22 b23 b24 b25 b26 b27 b28 b29 b30 b31 b32 b33 b34 b35 b36 b37 b38 b39 b40 b41 b42 b43 b44 b45 b46 b47 b48 b49 b50 b51 b52 b53 b54 b55 b56 b57 b58 b59 b60 b61 b62 b63 b64 b65 b66 b67 b68 b69 b70 b71 b72 b73 b74 b75 b76 b77 b78 b79 b80 b81 b82 b83 b84 b85 b86 b87 b88 b89 b90 b91 b92 b93 b94 b95 b96 b97 b98 b99 b100 b101 b102 b103 b104 b105 b106 b107 b108 b109 b110 b111 b112 b113 b114 b115 b116 b117 b118 b119 b120 b121 b122 b123 b124 b125 b126 b127 b128 b129 b130 b131 b132 b133 b134 b135 b136 b137 b138 b139 b140 b141 b142 b143 b144 b145 b146 b147 b148 b149 b150 b151 b152 b153 b154 b155 b156 b157 b158 b159 b160 b161 b162 b163 : BitVec 8) (h : min (HH.le32 [b160, b161, b162, b163]).toNat 31 = 19) :
    P.fromCheckpoint [b0, b1, b2, b3, b4, b5, b6, b7, b8, b9, b10, b11, b12, b13, b14, b15, b16, b17, b18, b19, b20, b21, b22, b23, b24, b25, b26, b27, b28, b29, b30, b31, b32, b33, b34, b35, b36, b37, b38, b39, b40, b41, b42, b43, b44, b45, b46, b47, b48, b49, b50, b51, b52, b53, b54, b55, b56, b57, b58, b59, b60, b61, b62, b63, b64, b65, b66, b67, b68, b69, b70, b71, b72, b73, b74, b75, b76, b77, b78, b79, b80, b81, b82, b83, b84, b85, b86, b87, b88, b89, b90, b91, b92, b93, b94, b95, b96, b97, b98, b99, b100, b101, b102, b103, b104, b105, b106, b107, b108, b109, b110, b111, b112, b113, b114, b115, b116, b117, b118, b119, b120, b121, b122, b123, b124, b125, b126, b127, b128, b129, b130, b131, b132, b133, b134, b135, b136, b137, b138, b139, b140, b141, b142, b143, b144, b145, b146, b147, b148, b149, b150, b151, b152, b153, b154, b155, b156, b157, b158, b159, b160, b161, b162, b163] = fromCheckpoint19 b0 b1 b2 b3 b4 b5 b6 b7 b8 b9 b10 b11 b12 b13 b14 b15 b16 b17 b18 b19 b20 b21 b22 b23 b24 b25 b26 b27 b28 b29 b30 b31 b32 b33 b34 b35 b36 b37 b38 b39 b40 b41 b42 b43 b44 b45 b46 b47 b48 b49 b50 b51 b52 b53 b54 b55 b56 b57 b58 b59 b60 b61 b62 b63 b64 b65 b66 b67 b68 b69 b70 b71 b72 b73 b74 b75 b76 b77 b78 b79 b80 b81 b82 b83 b84 b85 b86 b87 b88 b89 b90 b91 b92 b93 b94 b95 b96 b97 b98 b99 b100 b101 b102 b103 b104 b105 b106 b107 b108 b109 b110 b111 b112 b113 b114 b115 b116 b117 b118 b119 b120 b121 b122 b123 b124 b125 b126 b127 b128 b129 b130 b131 b132 b133 b134 b135 b136 b137 b138 b139 b140 b141 b142 b143 b144 b145 b146 b147 b148 b149 b150 b151 b152 b153 b154 b155 b156 b157 b158 b159 b160 b161 b162 b163 := by
  refine P.eq_fromCheckpoint _ 19 _ ?_ ?_ h <;> rfl
theorem fromCheckpoint20_eq (b0 b1 b2 b3 b4 b5 b6 b7 b8 b9 b10 b11 b12 b13 b14 b15 b16 b17 b18 b19 b20 b21 b22 b23 b24 b25 b26 b27 b28 b29 b30 b31 b32 b33 b34 b35 b36 b37 b38 b39 b40 b41 b42 b43 b44 b45 b46 b47 b48 b49 b50 b51 b52 b53 b54 b55 b56 b57 b58 b59 b60 b61 b62 b63 b64 b65 b66 b67 b68 b69 b70 b71 b72 b73 b74 b75 b76 b77 b78 b79 b80 b81 b82 b83 b84 b85 b86 b87 b88 b89 b90 b91 b92 b93 b94 b95 b96 b97 b98 b99 b100 b101 b102 b103 b104 b105 b106 b107 b108 b109 b110 b111 b112 b113 b114 b115 b116 b117 b118 b119 b120 b121 b122 b123 b124 b125 b126 b127 b128 b129 b130 b131 b132 b133 b134 b135 b136 b137 b138 b139 b140 b141 b142 b143 b144 b145 b146 b147 b148 b149 b150 b151 b152 b153 b154 b155 b156 b157 b158 b159 b160 b161 b162 b163 : BitVec 8) (h : min (HH.le32 [b160, b161, b162, b163]).toNat 31 = 20) :
    P.fromCheckpoint [b0, b1, b2, b3, b4, b5, b6, b7, b8, b9, b10, b11, b12, b13, b14, b15, b16, b17, b18, b19, b20, b21, b22, b23, b24, b25, b26, b27, b28, b29, b30, b31, b32, b33, b34, b35, b36, b37, b38, b39, b40, b41, b42, b43, b44, b45, b46, b47, b48, b49, b50, b51, b52, b53, b54, b55, b56, b57, b58, b59, b60, b61, b62, b63, b64, b65, b66, b67, b68, b69, b70, b71, b72, b73, b74, b75, b76, b77, b78, b79, b80, b81, b82, b83, b84, b85, b86, b87, b88, b89, b90, b91, b92, b93, b94, b95, b96, b97, b98, b99, b100, b101, b102, b103, b104, b105, b106, b107, b108, b109, b110, b111, b112, b113, b114, b115, b116, b117, b118, b119, b120, b121, b122, b123, b124, b125, b126, b127, b128, b129, b130, b131, b132, b133, b134, b135, b136, b137, b138, b139, b140, b141, b142, b143, b144, b145, b146, b147, b148, b149, b150, b151, b152, b153, b154, b155, b156, b157, b158, b159, b160, b161, b162, b163] = fromCheckpoint20 b0 b1 b2 b3 b4 b5 b6 b7 b8 b9 b10 b11 b12 b13 b14 b15 b16 b17 b18 b19 b20 b21 b22 b23 b24 b25 b26 b27 b28 b29 b30 b31 b32 b33 b34 b35 b36 b37 b38 b39 b40 b41 b42 b43 b44 b45 b46 b47 b48 b49 b50 b51 b52 b53 b54 b55 b56 b57 b58 b59 b60 b61 b62 b63 b64 b65 b66 b67 b68 b69 b70 b71 b72 b73 b74 b75 b76 b77 b78 b79 b80 b81 b82 b83 b84 b85 b86 b87 b88 b89 b90 b91 b92 b93 b94 b95 b96 b97 b98 b99 b100 b101 b102 b103 b104 b105 b106 b107 b108 b109 b110 b111 b112 b113 b114 b115 b116 b117 b118 b119 b120 b121 b122 b123 b124 b125 b126 b127 b128 b129 b130 b131 b132 b133 b134 b135 b136 b137 b138 b139 b140 b141 b142 b143 b144 b145 b146 b147 b148 b149 b150 b151 b152 b153 b154 b155 b156 b157 b158 b159 b160 b161 b162 b163 := by
  refine P.eq_fromCheckpoint _ 20 _ ?_ ?_ h <;> rfl
theorem fromCheckpoint21_eq (b0 b1 b2 b3 b4 b5 b6 b7 b8 b9 b10 b11 b12 b13 b14 b15 b16 b17 b18 b19 b20 b21 b22 b23 b24 b25 b26 b27 b28 b29 b30 b31 b32 b33 b34 b35 b36 b37 b38 b39 b40 b41 b42 b43 b44 b45 b46 b47 b48 b49 b50 b51 b52 b53 b54 b55 b56 b57 b58 b59 b60 b61 b62 b63 b64 b65 b66 b67 b68 b69 b70 b71 b72 b73 b74 b75 b76 b77 b78 b79 b80 b81 b82 b83 b84 b85 b86 b87 b88 b89 b90 b91 b92 b93 b94 b95 b96 b97 b98 b99 b100 b101 b102 b103 b104 b105 b106 b107 b108 b109 b110 b111 b112 b113 b114 b115 b116 b117 b118 b119 b120 b121 b122 b123 b124 b125 b126 b127 b128 b129 b130 b131 b132 b133 b134 b135 b136 b137 b138 b139 b140 b141 b142 b143 b144 b145 b146 b147 b148 b149 b150 b151 b152 b153 b154 b155 b156 b157 b158 b159 b160 b161 b162 b163 : BitVec 8) (h : min (HH.le32 [b160, b161, b162, b163]).toNat 31 = 21) :
    P.fromCheckpoint [b0, b1, b2, b3, b4, b5, b6, b7, b8, b9, b10, b11, b12, b13, b14, b15, b16, b17, b18, b19, b20, b21, b22, b23, b24, b25, b26, b27, b28, b29, b30, b31, b32, b33, b34, b35, b36, b37, b38, b39, b40, b41, b42, b43, b44, b45, b46, b47, b48, b49, b50, b51, b52, b53, b54, b55, b56, b57, b58, b59, b60, b61, b62, b63, b64, b65, b66, b67, b68, b69, b70, b71, b72, b73, b74, b75, b76, b77, b78, b79, b80, b81, b82, b83, b84, b85, b86, b87, b88, b89, b90, b91, b92, b93, b94, b95, b96, b97, b98, b99, b100, b101, b102, b103, b104, b105, b106, b107, b108, b109, b110, b111, b112, b113, b114, b115, b116, b117, b118, b119, b120, b121, b122, b123, b124, b125, b126, b127, b128, b129, b130, b131, b132, b133, b134, b135, b136, b137, b138, b139, b140, b141, b142, b143, b144, b145, b146, b147, b148, b149, b150, b151, b152, b153, b154, b155, b156, b157, b158, b159, b160, b161, b162, b163] = fromCheckpoint21 b0 b1 b2 b3 b4 b5 b6 b7 b8 b9 b10 b11 b12 b13 b14 b15 b16 b17 b18 b19 b20 b21 b22 b23 b24 b25 b26 b27 b28 b29 b30 b31 b32 b33 b34 b35 b36 b37 b38 b39 b40 b41 b42 b43 b44 b45 b46 b47 b48 b49 b50 b51 b52 b53 b54 b55 b56 b57 b58 b59 b60 b61 b62 b63 b64 b65 b66 b67 b68 b69 b70 b71 b72 b73 b74 b75 b76 b77 b78 b79 b80 b81 b82 b83 b84 b85 b86 b87 b88 b89 b90 b91 b92 b93 b94 b95 b96 b97 b98 b99 b100 b101 b102 b103 b104 b105 b106 b107 b108 b109 b110 b111 b112 b113 b114 b115 b116 b117 b118 b119 b120 b121 b122 b123 b124 b125 b126 b127 b128 b129 b130 b131 b132 b133 b134 b135 b136 b137 b138 b139 b140 b141 b142 b143 b144 b145 b146 b147 b148 b149 b150 b151 b152 b153 b154 b155 b156 b157 b158 b159 b160 b161 b162 b163 := by
  refine P.eq_fromCheckpoint _ 21 _ ?_ ?_ h <;> rfl
theorem fromCheckpoint22_eq (b0 b1 b2 b3 b4 b5 b6 b7 b8 b9 b10 b11 b12 b13 b14 b15 b16 b17 b18 b19 b20 b21 b22 b23 b24 b25 b26 b27 b28 b29 b30 b31 b32 b33 b34 b35 b36 b37 b38 b39 b40 b41 b42 b43 b44 b45 b46 b47 b48 b49 b50 b51 b52 b53 b54 b55 b56 b57 b58 b59 b60 b61 b62 b63 b64 b65 b66 b67 b68 b69 b70 b71 b72 b73 b74 b75 b76 b77 b78 b79 b80 b81 b82 b83 b84 b85 b86 b87 b88 b89 b90 b91 b92 b93 b94 b95 b96 b97 b98 b99 b100 b101 b102 b103 b104 b105 b106 b107 b108 b109 b110 b111 b112 b113 b114 b115 b116 b117 b118 b119 b120 b121 b122 b123 b124 b125 b126 b127 b128 b129 b130 b131 b132 b133 b134 b135 b136 b137 b138 b139 b140 b141 b142 b143 b144 b145 b146 b147 b148 b149 b150 b151 b152 b153 b154 b155 b156 b157 b158 b159 b160 b161 b162 b163 : BitVec 8) (h : min (HH.le32 [b160, b161, b162, b163]).toNat 31 = 22) :
    P.fromCheckpoint [b0, b1, b2, b3, b4, b5, b6, b7, b8, b9, b10, b11, b12, b13, b14, b15, b16, b17, b18, b19, b20, b21, b22, b23, b24, b25, b26, b27, b28, b29, b30, b31, b32, b33, b34, b35, b36, b37, b38, b39, b40, b41, b42, b43, b44, b45, b46, b47, b48, b49, b50, b51, b52, b53, b54, b55, b56, b57, b58, b59, b60, b61, b62, b63, b64, b65, b66, b67, b68, b69, b70, b71, b72, b73, b74, b75, b76, b77, b78, b79, b80, b81, b82, b83, b84, b85, b86, b87, b88, b89, b90, b91, b92, b93, b94, b95, b96, b97, b98, b99, b100, b101, b102, b103, b104, b105, b106, b107, b108, b109, b110, b111, b112, b113, b114, b115, b116, b117, b118, b119, b120, b121, b122, b123, b124, b125, b126, b127, b128, b129, b130, b131, b132, b133, b134, b135, b136, b137, b138, b139, b140, b141, b142, b143, b144, b145, b146, b147, b148, b149, b150, b151, b152, b153, b154, b155, b156, b157, b158, b159, b160, b161, b162, b163] = fromCheckpoint22 b0 b1 b2 b3 b4 b5 b6 b7 b8 b9 b10 b11 b12 b13 b14 b15 b16 b17 b18 b19 b20 b21 b22 b23 b24 b25 b26 b27 b28 b29 b30 b31 b32 b33 b34 b35 b36 b37 b38 b39 b40 b41 b42 b43 b44 b45 b46 b47 b48 b49 b50 b51 b52 b53 b54 b55 b56 b57 b58 b59 b60 b61 b62 b63 b64 b65 b66 b67 b68 b69 b70 b71 b72 b73 b74 b75 b76 b77 b78 b79 b80 b81 b82 b83 b84 b85 b86 b87 b88 b89 b90 b91 b92 b93 b94 b95 b96 b97 b98 b99 b100 b101 b102 b103 b104 b105 b106 b107 b108 b109 b110 b111 b112 b113 b114 b115 b116 b117 b118 b119 b120 b121 b122 b123 b124 b125 b126 b127 b128 b129 b130 b131 b132 b133 b134 b135 b136 b137 b138 b139 b140 b141 b142 b143 b144 b145 b146 b147 b148 b149 b150 b151 b152 b153 b154 b155 b156 b157 b158 b159 b160 b161 b162 b163 := by
  refine P.eq_fromCheckpoint _ 22 _ ?_ ?_ h <;> rfl
theorem fromCheckpoint23_eq (b0 b1 b2 b3 b4 b5 b6 b7 b8 b9 b10 b11 b12 b13 b14 b15 b16 b17 b18 b19 b20 b21 b22 b23 b24 b25 b26 b27 b28 b29 b30 b31 b32 b33 b34 b35 b36 b37 b38 b39 b40 b41 b42 b43 b44 b45 b46 b47 b48 b49 b50 b51 b52 b53 b54 b55 b56 b57 b58 b59 b60 b61 b62 b63 b64 b65 b66 b67 b68 b69 b70 b71 b72 b73 b74 b75 b76 b77 b78 b79 b80 b81 b82 b83 b84 b85 b86 b87 b88 b89 b90 b91 b92 b93 b94 b95 b96 b97 b98 b99 b100 b101 b102 b103 b104 b105 b106 b107 b108 b109 b110 b111 b112 b113 b114 b115 b116 b117 b118 b119 b120 b121 b122 b123 b124 b125 b126 b127 b128 b129 b130 b131 b132 b133 b134 b135 b136 b137 b138 b139 b140 b141 b142 b143 b144 b145 b146 b147 b148 b149 b150 b151 b152 b153 b154 b155 b156 b157 b158 b159 b160 b161 b162 b163 : BitVec 8) (h : min (HH.le32 [b160, b161, b162, b163]).toNat 31 = 23) :
    P.fromCheckpoint [b0, b1, b2, b3, b4, b5, b6, b7, b8, b9, b10, b11, b12, b13, b14, b15, b16, b17, b18, b19, b20, b21, b22, b23, b24, b25, b26, b27, b28, b29, b30, b31, b32, b33, b34, b35, b36, b37, b38, b39, b40, b41, b42, b43, b44, b45, b46, b47, b48, b49, b50, b51, b52, b53, b54, b55, b56, b57, b58, b59, b60, b61, b62, b63, b64, b65, b66, b67, b68, b69, b70, b71, b72, b73, b74, b75, b76, b77, b78, b79, b80, b81, b82, b83, b84, b85, b86, b87, b88, b89, b90, b91, b92, b93, b94, b95, b96, b97, b98, b99, b100, b101, b102, b103, b104, b105, b106, b107, b108, b109, b110, b111, b112, b113, b114, b115, b116, b117, b118, b119, b120, b121, b122, b123, b124, b125, b126, b127, b128, b129, b130, b131, b132, b133, b134, b135, b136, b137, b138, b139, b140, b141, b142, b143, b144, b145, b146, b147, b148, b149, b150, b151, b152, b153, b154, b155, b156, b157, b158, b159, b160, b161, b162, b163] = fromCheckpoint23 b0 b1 b2 b3 b4 b5 b6 b7 b8 b9 b10 b11 b12 b13 b14 b15 b16 b17 b18 b19 b20 b21 b22 b23 b24 b25 b26 b27 b28 b29 b30 b31 b32 b33 b34 b35 b36 b37 b38 b39 b40 b41 b42 b43 b44 b45 b46 b47 b48 b49 b50 b51 b52 b53 b54 b55 b56 b57 b58 b59 b60 b61 b62 b63 b64 b65 b66 b67 b68 b69 b70 b71 b72 b73 b74 b75 b76 b77 b78 b79 b80 b81 b82 b83 b84 b85 b86 b87 b88 b89 b90 b91 b92 b93 b94 b95 b96 b97 b98 b99 b100 b101 b102 b103 b104 b105 b106 b107 b108 b109 b110 b111 b112 b113 b114 b115 b116 b117 b118 b119 b120 b121 b122 b123 b124 b125 b126 b127 b128 b129 b130 b131 b132 b133 b134 b135 b136 b137 b138 b139 b140 b141 b142 b143 b144 b145 b146 b147 b148 b149 b150 b151 b152 b153 b154 b155 b156 b157 b158 b159 b160 b161 b162 b163 := by
  refine P.eq_fromCheckpoint _ 23 _ ?_ ?_ h <;> rfl
theorem fromCheckpoint24_eq (b0 b1 b2 b3 b4 b5 b6 b7 b8 b9 b10 b11 b12 b13 b14 b15 b16 b17 b18 b19 b20 b21 b22 b23 b24 b25 b26 b27 b28 b29 b30 b31 b32 b33 b34 b35 b36 b37 b38 b39 b40 b41 b42 b43 b44 b45 b46 b47 b48 b49 b50 b51 b52 b53 b54 b55 b56 b57 b58 b59 b60 b61 b62 b63 b64 b65 b66 b67 b68 b69 b70 b71 b72 b73 b74 b75 b76 b77 b78 b79 b80 b81 b82 b83 b84 b85 b86 b87 b88 b89 b90 b91 b92 b93 b94 b95 b96 b97 b98 b99 b100 b101 b102 b103 b104 b105 b106 b107 b108 b109 b110 b111 b112 b113 b114 b115 b116 b117 b118 b119 b120 b121 b122 b123 b124 b125 b126 b127 b128 b129 b130 b131 b132 b133 b134 b135 b136 b137 b138 b139 b140 b141 b142 b143 b144 b145 b146 b147 b148 b149 b150 b151 b152 b153 b154 b155 b156 b157 b158 b159 b160 b161 b162 b163 : BitVec 8) (h : min (HH.le32 [b160, b161, b162, b163]).toNat 31 = 24) :
    P.fromCheckpoint [b0, b1, b2, b3, b4, b5, b6, b7, b8, b9, b10, b11, b12, b13, b14, b15, b16, b17, b18, b19, b20, b21, b22, b23, b24, b25, b26, b27, b28, b29, b30, b31, b32, b33, b34, b35, b36, b37, b38, b39, b40, b41, b42, b43, b44, b45, b46, b47, b48, b49, b50, b51, b52, b53, b54, b55, b56, b57, b58, b59, b60, b61, b62, b63, b64, b65, b66, b67, b68, b69, b70, b71, b72, b73, b74, b75, b76, b77, b78, b79, b80, b81, b82, b83, b84, b85, b86, b87, b88, b89, b90, b91, b92, b93, b94, b95, b96, b97, b98, b99, b100, b101, b102, b103, b104, b105, b106, b107, b108, b109, b110, b111, b112, b113, b114, b115, b116, b117, b118, b119, b120, b121, b122, b123, b124, b125, b126, b127, b128, b129, b130, b131, b132, b133, b134, b135, b136, b137, b138, b139, b140, b141, b142, b143, b144, b145, b146, b147, b148, b149, b150, b151, b152, b153, b154, b155, b156, b157, b158, b159, b160, b161, b162, b163] = fromCheckpoint24 b0 b1 b2 b3 b4 b5 b6 b7 b8 b9 b10 b11 b12 b13 b14 b15 b16 b17 b18 b19 b20 b21 b22 b23 b24 b25 b26 b27 b28 b29 b30 b31 b32 b33 b34 b35 b36 b37 b38 b39 b40 b41 b42 b43 b44 b45 b46 b47 b48 b49 b50 b51 b52 b53 b54 b55 b56 b57 b58 b59 b60 b61 b62 b63 b64 b65 b66 b67 b68 b69 b70 b71 b72 b73 b74 b75 b76 b77 b78 b79 b80 b81 b82 b83 b84 b85 b86 b87 b88 b89 b90 b91 b92 b93 b94 b95 b96 b97 b98 b99 b100 b101 b102 b103 b104 b105 b106 b107 b108 b109 b110 b111 b112 b113 b114 b115 b116 b117 b118 b119 b120 b121 b122 b123 b124 b125 b126 b127 b128 b129 b130 b131 b132 b133 b134 b135 b136 b137 b138 b139 b140 b141 b142 b143 b144 b145 b146 b147 b148 b149 b150 b151 b152 b153 b154 b155 b156 b157 b158 b159 b160 b161 b162 b163 := by
  refine P.eq_fromCheckpoint _ 24 _ ?_ ?_ h <;> rfl
theorem fromCheckpoint25_eq (b0 b1 b2 b3 b4 b5 b6 b7 b8 b9 b10 b11 b12 b13 b14 b15 b16 b17 b18 b19 b20 b21 b22 b23 b24 b25 b26 b27 b28 b29 b30 b31 b32 b33 b34 b35 b36 b37 b38 b39 b40 b41 b42 b43 b44 b45 b46 b47 b48 b49 b50 b51 b52 b53 b54 b55 b56 b57 b58 b59 b60 b61 b62 b63 b64 b65 b66 b67 b68 b69 b70 b71 b72 b73 b74 b75 b76 b77 b78 b79 b80 b81 b82 b83 b84 b85 b86 b87 b88 b89 b90 b91 b92 b93 b94 b95 b96 b97 b98 b99 b100 b101 b102 b103 b104 b105 b106 b107 b108 b109 b110 b111 b112 b113 b114 b115 b116 b117 b118 b119 b120 b121 b122 b123 b124 b125 b126 b127 b128 b129 b130 b131 b132 b133 b134 b135 b136 b137 b138 b139 b140 b141 b142 b143 b144 b145 b146 b147 b148 b149 b150 b151 b152 b153 b154 b155 b156 b157 b158 b159 b160 b161 b162 b163 : BitVec 8) (h : min (HH.le32 [b160, b161, b162, b163]).toNat 31 = 25) :
    P.fromCheckpoint [b0, b1, b2, b3, b4, b5, b6, b7, b8, b9, b10, b11, b12, b13, b14, b15, b16, b17, b18, b19, b20, b21, b22, b23, b24, b25, b26, b27, b28, b29, b30, b31, b32, b33, b34, b35, b36, b37, b38, b39, b40, b41, b42, b43, b44, b45, b46, b47, b48, b49, b50, b51, b52, b53, b54, b55, b56, b57, b58, b59, b60, b61, b62, b63, b64, b65, b66, b67, b68, b69, b70, b71, b72, b73, b74, b75, b76, b77, b78, b79, b80, b81, b82, b83, b84, b85, b86, b87, b88, b89, b90, b91, b92, b93, b94, b95, b96, b97, b98, b99, b100, b101, b102, b103, b104, b105, b106, b107, b108, b109, b110, b111, b112, b113, b114, b115, b116, b117, b118, b119, b120, b121, b122, b123, b124, b125, b126, b127, b128, b129, b130, b131, b132, b133, b134, b135, b136, b137, b138, b139, b140, b141, b142, b143, b144, b145, b146, b147, b148, b149, b150, b151, b152, b153, b154, b155, b156, b157, b158, b159, b160, b161, b162, b163] = fromCheckpoint25 b0 b1 b2 b3 b4 b5 b6 b7 b8 b9 b10 b11 b12 b13 b14 b15 b16 b17 b18 b19 b20 b21 b22 b23 b24 b25 b26 b27 b28 b29 b30 b31 b32 b33 b34 b35 b36 b37 b38 b39 b40 b41 b42 b43 b44 b45 b46 b47 b48 b49 b50 b51 b52 b53 b54 b55 b56 b57 b58 b59 b60 b61 b62 b63 b64 b65 b66 b67 b68 b69 b70 b71 b72 b73 b74 b75 b76 b77 b78 b79 b80 b81 b82 b83 b84 b85 b86 b87 b88 b89 b90 b91 b92 b93 b94 b95 b96 b97 b98 b99 b100 b101 b102 b103 b104 b105 b106 b107 b108 b109 b110 b111 b112 b113 b114 b115 b116 b117 b118 b119 b120 b121 b122 b123 b124 b125 b126 b127 b128 b129 b130 b131 b132 b133 b134 b135 b136 b137 b138 b139 b140 b141 b142 b143 b144 b145 b146 b147 b148 b149 b150 b151 b152 b153 b154 b155 b156 b157 b158 b159 b160 b161 b162 b163 := by
  refine P.eq_fromCheckpoint _ 25 _ ?_ ?_ h <;> rfl
theorem fromCheckpoint26_eq (b0 b1 b2 b3 b4 b5 b6 b7 b8 b9 b10 b11 b12 b13 b14 b15 b16 b17 b18 b19 b20 b21 b22 b23 b24 b25 b26 b27 b28 b29 b30 b31 b32 b33 b34 b35 b36 b37 b38 b39 b40 b41 b42 b43 b44 b45 b46 b47 b48 b49 b50 b51 b52 b53 b54 b55 b56 b57 b58 b59 b60 b61 b62 b63 b64 b65 b66 b67 b68 b69 b70 b71 b72 b73 b74 b75 b76 b77 b78 b79 b80 b81 b82 b83 b84 b85 b86 b87 b88 b89 b90 b91 b92 b93 b94 b95 b96 b97 b98 b99 b100 b101 b102 b103 b104 b105 b106 b107 b108 b109 b110 b111 b112 b113 b114 b115 b116 b117 b118 b119 b120 b121 b122 b123 b124 b125 b126 b127 b128 b129 b130 b131 b132 b133 b134 b135 b136 b137 b138 b139 b140 b141 b142 b143 b144 b145 b146 b147 b148 b149 b150 b151 b152 b153 b154 b155 b156 b157 b158 b159 b160 b161 b162 b163 : BitVec 8) (h : min (HH.le32 [b160, b161, b162, b163]).toNat 31 = 26) :
    P.fromCheckpoint [b0, b1, b2, b3, b4, b5, b6, b7, b8, b9, b10, b11, b12, b13, b14, b15, b16, b17, b18, b19, b20, b21, b22, b23, b24, b25, b26, b27, b28, b29, b30, b31, b32, b33, b34, b35, b36, b37, b38, b39, b40, b41, b42, b43, b44, b45, b46, b47, b48, b49, b50, b51, b52, b53, b54, b55, b56, b57, b58, b59, b60, b61, b62, b63, b64, b65, b66, b67, b68, b69, b70, b71, b72, b73, b74, b75, b76, b77, b78, b79, b80, b81, b82, b83, b84, b85, b86, b87, b88, b89, b90, b91, b92, b93, b94, b95, b96, b97, b98, b99, b100, b101, b102, b103, b104, b105, b106, b107, b108, b109, b110, b111, b112, b113, b114, b115, b116, b117, b118, b119, b120, b121, b122, b123, b124, b125, b126, b127, b128, b129, b130, b131, b132, b133, b134, b135, b136, b137, b138, b139, b140, b141, b142, b143, b144, b145, b146, b147, b148, b149, b150, b151, b152, b153, b154, b155, b156, b157, b158, b159, b160, b161, b162, b163] = fromCheckpoint26 b0 b1 b2 b3 b4 b5 b6 b7 b8 b9 b10 b11 b12 b13 b14 b15 b16 b17 b18 b19 b20 b21 b22 b23 b24 b25 b26 b27 b28 b29 b30 b31 b32 b33 b34 b35 b36 b37 b38 b39 b40 b41 b42 b43 b44 b45 b46 b47 b48 b49 b50 b51 b52 b53 b54 b55 b56 b57 b58 b59 b60 b61 b62 b63 b64 b65 b66 b67 b68 b69 b70 b71 b72 b73 b74 b75 b76 b77 b78 b79 b80 b81 b82 b83 b84 b85 b86 b87 b88 b89 b90 b91 b92 b93 b94 b95 b96 b97 b98 b99 b100 b101 b102 b103 b104 b105 b106 b107 b108 b109 b110 b111 b112 b113 b114 b115 b116 b117 b118 b119 b120 b121 b122 b123 b124 b125 b126 b127 b128 b129 b130 b131 b132 b133 b134 b135 b136 b137 b138 b139 b140 b141 b142 b143 b144 b145 b146 b147 b148 b149 b150 b151 b152 b153 b154 b155 b156 b157 b158 b159 b160 b161 b162 b163 := by
  refine P.eq_fromCheckpoint _ 26 _ ?_ ?_ h <;> rfl
theorem fromCheckpoint27_eq (b0 b1 b2 b3 b4 b5 b6 b7 b8 b9 b10 b11 b12 b13 b14 b15 b16 b17 b18 b19 b20 b21 b22 b23 b24 b25 b26 b27 b28 b29 b30 b31 b32 b33 b34 b35 b36 b37 b38 b39 b40 b41 b42 b43 b44 b45 b46 b47 b48 b49 b50 b51 b52 b53 b54 b55 b56 b57 b58 b59 b60 b61 b62 b63 b64 b65 b66 b67 b68 b69 b70 b71 b72 b73 b74 b75 b76 b77 b78 b79 b80 b81 b82 b83 b84 b85 b86 b87 b88 b89 b90 b91 b92 b93 b94 b95 b96 b97 b98 b99 b100 b101 b102 b103 b104 b105 b106 b107 b108 b109 b110 b111 b112 b113 b114 b115 b116 b117 b118 b119 b120 b121 b122 b123 b124 b125 b126 b127 b128 b129 b130 b131 b132 b133 b134 b135 b136 b137 b138 b139 b140 b141 b142 b143 b144 b145 b146 b147 b148 b149 b150 b151 b152 b153 b154 b155 b156 b157 b158 b159 b160 b161 b162 b163 : BitVec 8) (h : min (HH.le32 [b160, b161, b162, b163]).toNat 31 = 27) :
    P.fromCheckpoint [b0, b1, b2, b3, b4, b5, b6, b7, b8, b9, b10, b11, b12, b13, b14, b15, b16, b17, b18, b19, b20, b21, b22, b23, b24, b25, b26, b27, b28, b29, b30, b31, b32, b33, b34, b35, b36, b37, b38, b39, b40, b41, b42, b43, b44, b45, b46, b47, b48, b49, b50, b51, b52, b53, b54, b55, b56, b57, b58, b59, b60, b61, b62, b63, b64, b65, b66, b67, b68, b69, b70, b71, b72, b73, b74, b75, b76, b77, b78, b79, b80, b81, b82, b83, b84, b85, b86, b87, b88, b89, b90, b91, b92, b93, b94, b95, b96, b97, b98, b99, b100, b101, b102, b103, b104, b105, b106, b107, b108, b109, b110, b111, b112, b113, b114, b115, b116, b117, b118, b119, b120, b121, b122, b123, b124, b125, b126, b127, b128, b129, b130, b131, b132, b133, b134, b135, b136, b137, b138, b139, b140, b141, b142, b143, b144, b145, b146, b147, b148, b149, b150, b151, b152, b153, b154, b155, b156, b157, b158, b159, b160, b161, b162, b163] = fromCheckpoint27 b0 b1 b2 b3 b4 b5 b6 b7 b8 b9 b10 b11 b12 b13 b14 b15 b16 b17 b18 b19 b20 b21 b22 b23 b24 b25 b26 b27 b28 b29 b30 b31 b32 b33 b34 b35 b36 b37 b38 b39 b40 b41 b42 b43 b44 b45 b46 b47 b48 b49 b50 b51 b52 b53 b54 b55 b56 b57 b58 b59 b60 b61 b62 b63 b64 b65 b66 b67 b68 b69 b70 b71 b72 b73 b74 b75 b76 b77 b78 b79 b80 b81 b82 b83 b84 b85 b86 b87 b88 b89 b90 b91 b92 b93 b94 b95 b96 b97 b98 b99 b100 b101 b102 b103 b104 b105 b106 b107 b108 b109 b110 b111 b112 b113 b114 b115 b116 b117 b118 b119 b120 b121 b122 b123 b124 b125 b126 b127 b128 b129 b130 b131 b132 b133 b134 b135 b136 b137 b138 b139 b140 b141 b142 b143 b144 b145 b146 b147 b148 b149 b150 b151 b152 b153 b154 b155 b156 b157 b158 b159 b160 b161 b162 b163 := by
  refine P.eq_fromCheckpoint _ 27 _ ?_ ?_ h <;> rfl
theorem fromCheckpoint28_eq (b0 b1 b2 b3 b4 b5 b6 b7 b8 b9 b10 b11 b12 b13 b14 b15 b16 b17 b18 b19 b20 b21 b22 b23 b24 b25 b26 b27 b28 b29 b30 b31 b32 b33 b34 b35 b36 b37 b38 b39 b40 b41 b42 b43 b44 b45 b46 b47 b48 b49 b50 b51 b52 b53 b54 b55 b56 b57 b58 b59 b60 b61 b62 b63 b64 b65 b66 b67 b68 b69 b70 b71 b72 b73 b74 b75 b76 b77 b78 b79 b80 b81 b82 b83 b84 b85 b86 b87 b88 b89 b90 b91 b92 b93 b94 b95 b96 b97 b98 b99 b100 b101 b102 b103 b104 b105 b106 b107 b108 b109 b110 b111 b112 b113 b114 b115 b116 b117 b118 b119 b120 b121 b122 b123 b124 b125 b126 b127 b128 b129 b130 b131 b132 b133 b134 b135 b136 b137 b138 b139 b140 b141 b142 b143 b144 b145 b146 b147 b148 b149 b150 b151 b152 b153 b154 b155 b156 b157 b158 b159 b160 b161 b162 b163 : BitVec 8) (h : min (HH.le32 [b160, b161, b162, b163]).toNat 31 = 28) :
    P.fromCheckpoint [b0, b1, b2, b3, b4, b5, b6, b7, b8, b9, b10, b11, b12, b13, b14, b15, b16, b17, b18, b19, b20, b21, b22, b23, b24, b25, b26, b27, b28, b29, b30, b31, b32, b33, b34, b35, b36, b37, b38, b39, b40, b41, b42, b43, b44, b45, b46, b47, b48, b49, b50, b51, b52, b53, b54, b55, b56, b57, b58, b59, b60, b61, b62, b63, b64, b65, b66, b67, b68, b69, b70, b71, b72, b73, b74, b75, b76, b77, b78, b79, b80, b81, b82, b83, b84, b85, b86, b87, b88, b89, b90, b91, b92, b93, b94, b95, b96, b97, b98, b99, b100, b101, b102, b103, b104, b105, b106, b107, b108, b109, b110, b111, b112, b113, b114, b115, b116, b117, b118, b119, b120, b121, b122, b123, b124, b125, b126, b127, b128, b129, b130, b131, b132, b133, b134, b135, b136, b137, b138, b139, b140, b141, b142, b143, b144, b145, b146, b147, b148, b149, b150, b151, b152, b153, b154, b155, b156, b157, b158, b159, b160, b161, b162, b163] = fromCheckpoint28 b0 b1 b2 b3 b4 b5 b6 b7 b8 b9 b10 b11 b12 b13 b14 b15 b16 b17 b18 b19 b20 b21 b22 b23 b24 b25 b26 b27 b28 b29 b30 b31 b32 b33 b34 b35 b36 b37 b38 b39 b40 b41 b42 b43 b44 b45 b46 b47 b48 b49 b50 b51 b52 b53 b54 b55 b56 b57 b58 b59 b60 b61 b62 b63 b64 b65 b66 b67 b68 b69 b70 b71 b72 b73 b74 b75 b76 b77 b78 b79 b80 b81 b82 b83 b84 b85 b86 b87 b88 b89 b90 b91 b92 b93 b94 b95 b96 b97 b98 b99 b100 b101 b102 b103 b104 b105 b106 b107 b108 b109 b110 b111 b112 b113 b114 b115 b116 b117 b118 b119 b120 b121 b122 b123 b124 b125 b126 b127 b128 b129 b130 b131 b132 b133 b134 b135 b136 b137 b138 b139 b140 b141 b142 b143 b144 b145 b146 b147 b148 b149 b150 b151 b152 b153 b154 b155 b156 b157 b158 b159 b160 b161 b162 b163 := by
  refine P.eq_fromCheckpoint _ 28 _ ?_ ?_ h <;> rfl
theorem fromCheckpoint29_eq (b0 b1 b2 b3 b4 b5 b6 b7 b8 b9 b10 b11 b12 b13 b14 b15 b16 b17 b18 b19 b20 b21 b22 b23 b24 b25 b26 b27 b28 b29 b30 b31 b32 b33 b34 b35 b36 b37 b38 b39 b40 b41 b42 b43 b44 b45 b46 b47 b48 b49 b50 b51 b52 b53 b54 b55 b56 b57 b58 b59 b60 b61 b62 b63 b64 b65 b66 b67 b68 b69 b70 b71 b72 b73 b74 b75 b76 b77 b78 b79 b80 b81 b82 b83 b84 b85 b86 b87 b88 b89 b90 b91 b92 b93 b94 b95 b96 b97 b98 b99 b100 b101 b102 b103 b104 b105 b106 b107 b108 b109 b110 b111 b112 b113 b114 b115 b116 b117 b118 b119 b120 b121 b122 b123 b124 b125 b126 b127 b128 b129 b130 b131 b132 b133 b134 b135 b136 b137 b138 b139 b140 b141 b142 b143 b144 b145 b146 b147 b148 b149 b150 b151 b152 b153 b154 b155 b156 b157 b158 b159 b160 b161 b162 b163 : BitVec 8) (h : min (HH.le32 [b160, b161, b162, b163]).toNat 31 = 29) :
    P.fromCheckpoint [b0, b1, b2, b3, b4, b5, b6, b7, b8, b9, b10, b11, b12, b13, b14, b15, b16, b17, b18, b19, b20, b21, b22, b23, b24, b25, b26, b27, b28, b29, b30, b31, b32, b33, b34, b35, b36, b37, b38, b39, b40, b41, b42, b43, b44, b45, b46, b47, b48, b49, b50, b51, b52, b53, b54, b55, b56, b57, b58, b59, b60, b61, b62, b63, b64, b65, b66, b67, b68, b69, b70, b71, b72, b73, b74, b75, b76, b77, b78, b79, b80, b81, b82, b83, b84, b85, b86, b87, b88, b89, b90, b91, b92, b93, b94, b95, b96, b97, b98, b99, b100, b101, b102, b103, b104, b105, b106, b107, b108, b109, b110, b111, b112, b113, b114, b115, b116, b117, b118, b119, b120, b121, b122, b123, b124, b125, b126, b127, b128, b129, b130, b131, b132, b133, b134, b135, b136, b137, b138, b139, b140, b141, b142, b143, b144, b145, b146, b147, b148, b149, b150, b151, b152, b153, b154, b155, b156, b157, b158, b159, b160, b161, b162, b163] = fromCheckpoint29 b0 b1 b2 b3 b4 b5 b6 b7 b8 b9 b10 b11 b12 b13 b14 b15 b16 b17 b18 b19 b20 b21 b22 b23 b24 b25 b26 b27 b28 b29 b30 b31 b32 b33 b34 b35 b36 b37 b38 b39 b40 b41 b42 b43 b44 b45 b46 b47 b48 b49 b50 b51 b52 b53 b54 b55 b56 b57 b58 b59 b60 b61 b62 b63 b64 b65 b66 b67 b68 b69 b70 b71 b72 b73 b74 b75 b76 b77 b78 b79 b80 b81 b82 b83 b84 b85 b86 b87 b88 b89 b90 b91 b92 b93 b94 b95 b96 b97 b98 b99 b100 b101 b102 b103 b104 b105 b106 b107 b108 b109 b110 b111 b112 b113 b114 b115 b116 b117 b118 b119 b120 b121 b122 b123 b124 b125 b126 b127 b128 b129 b130 b131 b132 b133 b134 b135 b136 b137 b138 b139 b140 b141 b142 b143 b144 b145 b146 b147 b148 b149 b150 b151 b152 b153 b154 b155 b156 b157 b158 b159 b160 b161 b162 b163 := by
  refine P.eq_fromCheckpoint _ 29 _ ?_ ?_ h <;> rfl
theorem fromCheckpoint30_eq (b0 b1 b2 b3 b4 b5 b6 b7 b8 b9 b10 b11 b12 b13 b14 b15 b16 b17 b18 b19 b20 b21 b22 b23 b24 b25 b26 b27 b28 b29 b30 b31 b32 b33 b34 b35 b36 b37 b38 b39 b40 b41 b42 b43 b44 b45 b46 b47 b48 b49 b50 b51 b52 b53 b54 b55 b56 b57 b58 b59 b60 b61 b62 b63 b64 b65 b66 b67 b68 b69 b70 b71 b72 b73 b74 b75 b76 b77 b78 b79 b80 b81 b82 b83 b84 b85 b86 b87 b88 b89 b90 b91 b92 b93 b94 b95 b96 b97 b98 b99 b100 b101 b102 b103 b104 b105 b106 b107 b108 b109 b110 b111 b112 b113 b114 b115 b116 b117 b118 b119 b120 b121 b122 b123 b124 b125 b126 b127 b128 b129 b130 b131 b132 b133 b134 b135 b136 b137 b138 b139 b140 b141 b142 b143 b144 b145 b146 b147 b148 b149 b150 b151 b152 b153 b154 b155 b156 b157 b158 b159 b160 b161 b162 b163 : BitVec 8) (h : min (HH.le32 [b160, b161, b162, b163]).toNat 31 = 30) :
    P.fromCheckpoint [b0, b1, b2, b3, b4, b5, b6, b7, b8, b9, b10, b11, b12, b13, b14, b15, b16, b17, b18, b19, b20, b21, b22, b23, b24, b25, b26, b27, b28, b29, b30, b31, b32, b33, b34, b35, b36, b37, b38, b39, b40, b41, b42, b43, b44, b45, b46, b47, b48, b49, b50, b51, b52, b53, b54, b55, b56, b57, b58, b59, b60, b61, b62, b63, b64, b65, b66, b67, b68, b69, b70, b71, b72, b73, b74, b75, b76, b77, b78, b79, b80, b81, b82, b83, b84, b85, b86, b87, b88, b89, b90, b91, b92, b93, b94, b95, b96, b97, b98, b99, b100, b101, b102, b103, b104, b105, b106, b107, b108, b109, b110, b111, b112, b113, b114, b115, b116, b117, b118, b119, b120, b121, b122, b123, b124, b125, b126, b127, b128, b129, b130, b131, b132, b133, b134, b135, b136, b137, b138, b139, b140, b141, b142, b143, b144, b145, b146, b147, b148, b149, b150, b151, b152, b153, b154, b155, b156, b157, b158, b159, b160, b161, b162, b163] = fromCheckpoint30 b0 b1 b2 b3 b4 b5 b6 b7 b8 b9 b10 b11 b12 b13 b14 b15 b16 b17 b18 b19 b20 b21 b22 b23 b24 b25 b26 b27 b28 b29 b30 b31 b32 b33 b34 b35 b36 b37 b38 b39 b40 b41 b42 b43 b44 b45 b46 b47 b48 b49 b50 b51 b52 b53 b54 b55 b56 b57 b58 b59 b60 b61 b62 b63 b64 b65 b66 b67 b68 b69 b70 b71 b72 b73 b74 b75 b76 b77 b78 b79 b80 b81 b82 b83 b84 b85 b86 b87 b88 b89 b90 b91 b92 b93 b94 b95 b96 b97 b98 b99 b100 b101 b102 b103 b104 b105 b106 b107 b108 b109 b110 b111 b112 b113 b114 b115 b116 b117 b118 b119 b120 b121 b122 b123 b124 b125 b126 b127 b128 b129 b130 b131 b132 b133 b134 b135 b136 b137 b138 b139 b140 b141 b142 b143 b144 b145 b146 b147 b148 b149 b150 b151 b152 b153 b154 b155 b156 b157 b158 b159 b160 b161 b162 b163 := by
  refine P.eq_fromCheckpoint _ 30 _ ?_ ?_ h <;> rfl
theorem fromCheckpoint31_eq (b0 b1 b2 b3 b4 b5 b6 b7 b8 b9 b10 b11 b12 b13 b14 b15 b16 b17 b18 b19 b20 b21 b22 b23 b24 b25 b26 b27 b28 b29 b30 b31 b32 b33 b34 b35 b36 b37 b38 b39 b40 b41 b42 b43 b44 b45 b46 b47 b48 b49 b50 b51 b52 b53 b54 b55 b56 b57 b58 b59 b60 b61 b62 b63 b64 b65 b66 b67 b68 b69 b70 b71 b72 b73 b74 b75 b76 b77 b78 b79 b80 b81 b82 b83 b84 b85 b86 b87 b88 b89 b90 b91 b92 b93 b94 b95 b96 b97 b98 b99 b100 b101 b102 b103 b104 b105 b106 b107 b108 b109 b110 b111 b112 b113 b114 b115 b116 b117 b118 b119 b120 b121 b122 b123 b124 b125 b126 b127 b128 b129 b130 b131 b132 b133 b134 b135 b136 b137 b138 b139 b140 b141 b142 b143 b144 b145 b146 b147 b148 b149 b150 b151 b152 b153 b154 b155 b156 b157 b158 b159 b160 b161 b162 b163 : BitVec 8) (h : min (HH.le32 [b160, b161, b162, b163]).toNat 31 = 31) :
    P.fromCheckpoint [b0, b1, b2, b3, b4, b5, b6, b7, b8, b9, b10, b11, b12, b13, b14, b15, b16, b17, b18, b19, b20, b21, b22, b23, b24, b25, b26, b27, b28, b29, b30, b31, b32, b33, b34, b35, b36, b37, b38, b39, b40, b41, b42, b43, b44, b45, b46, b47, b48, b49, b50, b51, b52, b53, b54, b55, b56, b57, b58, b59, b60, b61, b62, b63, b64, b65, b66, b67, b68, b69, b70, b71, b72, b73, b74, b75, b76, b77, b78, b79, b80, b81, b82, b83, b84, b85, b86, b87, b88, b89, b90, b91, b92, b93, b94, b95, b96, b97, b98, b99, b100, b101, b102, b103, b104, b105, b106, b107, b108, b109, b110, b111, b112, b113, b114, b115, b116, b117, b118, b119, b120, b121, b122, b123, b124, b125, b126, b127, b128, b129, b130, b131, b132, b133, b134, b135, b136, b137, b138, b139, b140, b141, b142, b143, b144, b145, b146, b147, b148, b149, b150, b151, b152, b153, b154, b155, b156, b157, b158, b159, b160, b161, b162, b163] = fromCheckpoint31 b0 b1 b2 b3 b4 b5 b6 b7 b8 b9 b10 b11 b12 b13 b14 b15 b16 b17 b18 b19 b20 b21 b22 b23 b24 b25 b26 b27 b28 b29 b30 b31 b32 b33 b34 b35 b36 b37 b38 b39 b40 b41 b42 b43 b44 b45 b46 b47 b48 b49 b50 b51 b52 b53 b54 b55 b56 b57 b58 b59 b60 b61 b62 b63 b64 b65 b66 b67 b68 b69 b70 b71 b72 b73 b74 b75 b76 b77 b78 b79 b80 b81 b82 b83 b84 b85 b86 b87 b88 b89 b90 b91 b92 b93 b94 b95 b96 b97 b98 b99 b100 b101 b102 b103 b104 b105 b106 b107 b108 b109 b110 b111 b112 b113 b114 b115 b116 b117 b118 b119 b120 b121 b122 b123 b124 b125 b126 b127 b128 b129 b130 b131 b132 b133 b134 b135 b136 b137 b138 b139 b140 b141 b142 b143 b144 b145 b146 b147 b148 b149 b150 b151 b152 b153 b154 b155 b156 b157 b158 b159 b160 b161 b162 b163 := by
  refine P.eq_fromCheckpoint _ 31 _ ?_ ?_ h <;> rfl

theorem unorderedLoad3_0_eq : unorderedLoad3_0  = HH.unorderedLoad3 [] := by
  simp only [HH.unorderedLoad3, List.length, List.isEmpty] <;> rfl
theorem unorderedLoad3_1_eq (b0 : BitVec 8) : unorderedLoad3_1 b0 = HH.unorderedLoad3 [b0] := by
  simp only [HH.unorderedLoad3, List.length, List.isEmpty] <;> rfl
theorem unorderedLoad3_2_eq (b0 b1 : BitVec 8) : unorderedLoad3_2 b0 b1 = HH.unorderedLoad3 [b0, b1] := by
  simp only [HH.unorderedLoad3, List.length, List.isEmpty] <;> rfl
theorem unorderedLoad3_3_eq (b0 b1 b2 : BitVec 8) : unorderedLoad3_3 b0 b1 b2 = HH.unorderedLoad3 [b0, b1, b2] := by
  simp only [HH.unorderedLoad3, List.length, List.isEmpty] <;> rfl
theorem unorderedLoad3_5_eq (b0 b1 b2 b3 b4 : BitVec 8) : unorderedLoad3_5 b0 b1 b2 b3 b4 = HH.unorderedLoad3 [b0, b1, b2, b3, b4] := by
  simp only [HH.unorderedLoad3, List.length, List.isEmpty] <;> rfl
theorem unorderedLoad3_6_eq (b0 b1 b2 b3 b4 b5 : BitVec 8) : unorderedLoad3_6 b0 b1 b2 b3 b4 b5 = HH.unorderedLoad3 [b0, b1, b2, b3, b4, b5] := by
  simp only [HH.unorderedLoad3, List.length, List.isEmpty] <;> rfl
theorem unorderedLoad3_7_eq (b0 b1 b2 b3 b4 b5 b6 : BitVec 8) : unorderedLoad3_7 b0 b1 b2 b3 b4 b5 b6 = HH.unorderedLoad3 [b0, b1, b2, b3, b4, b5, b6] := by
  simp only [HH.unorderedLoad3, List.length, List.isEmpty] <;> rfl


end HH.Gen
