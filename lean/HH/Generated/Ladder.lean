-- GENERATED by /verif/harness/facts (ladgen) from src/builder.rs; do not edit.
import HH.Dispatch
namespace HH.Gen.Ladder
open HH

/-- `union HighwayChoices`: (member, the configurations in which it exists, the hasher type it holds) -/
def unionMembers : List (Backend × (Cfg → Bool) × Backend) :=
  [(Backend.portable, (fun c => !((c.arch == Arch.wasmSimd) || (c.arch == Arch.aarch64))), Backend.portable),
   (Backend.avx, (fun c => (c.arch == Arch.x86_64)), Backend.avx),
   (Backend.sse, (fun c => (c.arch == Arch.x86_64)), Backend.sse),
   (Backend.neon, (fun c => (c.arch == Arch.aarch64)), Backend.neon),
   (Backend.wasm, (fun c => (c.arch == Arch.wasmSimd)), Backend.wasm)]

/-- the ladder of `HighwayHasher::new` -/
def selectNew (c : Cfg) (cpu : Cpu) : Option Backend :=
  let k1 : Option Backend := (if !((c.arch == Arch.wasmSimd) || (c.arch == Arch.aarch64)) then some Backend.portable else none)
  let k2 : Option Backend := (if (c.arch == Arch.wasmSimd) then some Backend.wasm else k1)
  let k3 : Option Backend := (if (c.arch == Arch.aarch64) then some Backend.neon else k2)
  let k4 : Option Backend := (if c.std then (if cpu.sse41 then some Backend.sse else k3) else k3)
  (if (c.arch == Arch.x86_64) then (if c.tfAvx2 then some Backend.avx else (if c.tfSse41 then some Backend.sse else (if c.std then (if cpu.avx2 then some Backend.avx else k4) else k4))) else k3)

/-- the ladder of `HighwayHasher::from_checkpoint` -/
def selectRestore (c : Cfg) (cpu : Cpu) : Option Backend :=
  let k1 : Option Backend := (if !((c.arch == Arch.wasmSimd) || (c.arch == Arch.aarch64)) then some Backend.portable else none)
  let k2 : Option Backend := (if (c.arch == Arch.wasmSimd) then some Backend.wasm else k1)
  let k3 : Option Backend := (if (c.arch == Arch.aarch64) then some Backend.neon else k2)
  let k4 : Option Backend := (if c.std then (if cpu.sse41 then some Backend.sse else k3) else k3)
  (if (c.arch == Arch.x86_64) then (if c.tfAvx2 then some Backend.avx else (if c.tfSse41 then some Backend.sse else (if c.std then (if cpu.avx2 then some Backend.avx else k4) else k4))) else k3)

/-- the struct literals the ladders build: (function, tag, union member initialised, hasher type constructed) -/
def ctorArms : List (String × Nat × Backend × Backend) :=
  [("new", 0, Backend.portable, Backend.portable),
   ("new", 4, Backend.wasm, Backend.wasm),
   ("new", 3, Backend.neon, Backend.neon),
   ("new", 1, Backend.avx, Backend.avx),
   ("new", 2, Backend.sse, Backend.sse),
   ("new", 2, Backend.sse, Backend.sse),
   ("new", 1, Backend.avx, Backend.avx),
   ("from_checkpoint", 0, Backend.portable, Backend.portable),
   ("from_checkpoint", 4, Backend.wasm, Backend.wasm),
   ("from_checkpoint", 3, Backend.neon, Backend.neon),
   ("from_checkpoint", 1, Backend.avx, Backend.avx),
   ("from_checkpoint", 2, Backend.sse, Backend.sse),
   ("from_checkpoint", 2, Backend.sse, Backend.sse),
   ("from_checkpoint", 1, Backend.avx, Backend.avx)]

/-- dispatch sites (`match self.tag`), in source order: Debug::fmt, Clone::clone, append, finalize64, finalize128, finalize256, checkpoint -/
def dispatchSites : Nat := 7
/-- their arms: (site, the configurations in which the arm exists, tag, union member read) -/
def dispatchArms : List (Nat × (Cfg → Bool) × Nat × Backend) :=
  [(0, (fun c => !((c.arch == Arch.wasmSimd) || (c.arch == Arch.aarch64))), 0, Backend.portable),
   (0, (fun c => (c.arch == Arch.x86_64)), 1, Backend.avx),
   (0, (fun c => (c.arch == Arch.x86_64)), 2, Backend.sse),
   (0, (fun c => (c.arch == Arch.aarch64)), 3, Backend.neon),
   (0, (fun c => (c.arch == Arch.wasmSimd)), 4, Backend.wasm),
   (1, (fun c => !((c.arch == Arch.wasmSimd) || (c.arch == Arch.aarch64))), 0, Backend.portable),
   (1, (fun c => (c.arch == Arch.x86_64)), 1, Backend.avx),
   (1, (fun c => (c.arch == Arch.x86_64)), 2, Backend.sse),
   (1, (fun c => (c.arch == Arch.aarch64)), 3, Backend.neon),
   (1, (fun c => (c.arch == Arch.wasmSimd)), 4, Backend.wasm),
   (2, (fun c => !((c.arch == Arch.wasmSimd) || (c.arch == Arch.aarch64))), 0, Backend.portable),
   (2, (fun c => (c.arch == Arch.x86_64)), 1, Backend.avx),
   (2, (fun c => (c.arch == Arch.x86_64)), 2, Backend.sse),
   (2, (fun c => (c.arch == Arch.aarch64)), 3, Backend.neon),
   (2, (fun c => (c.arch == Arch.wasmSimd)), 4, Backend.wasm),
   (3, (fun c => !((c.arch == Arch.wasmSimd) || (c.arch == Arch.aarch64))), 0, Backend.portable),
   (3, (fun c => (c.arch == Arch.x86_64)), 1, Backend.avx),
   (3, (fun c => (c.arch == Arch.x86_64)), 2, Backend.sse),
   (3, (fun c => (c.arch == Arch.aarch64)), 3, Backend.neon),
   (3, (fun c => (c.arch == Arch.wasmSimd)), 4, Backend.wasm),
   (4, (fun c => !((c.arch == Arch.wasmSimd) || (c.arch == Arch.aarch64))), 0, Backend.portable),
   (4, (fun c => (c.arch == Arch.x86_64)), 1, Backend.avx),
   (4, (fun c => (c.arch == Arch.x86_64)), 2, Backend.sse),
   (4, (fun c => (c.arch == Arch.aarch64)), 3, Backend.neon),
   (4, (fun c => (c.arch == Arch.wasmSimd)), 4, Backend.wasm),
   (5, (fun c => !((c.arch == Arch.wasmSimd) || (c.arch == Arch.aarch64))), 0, Backend.portable),
   (5, (fun c => (c.arch == Arch.x86_64)), 1, Backend.avx),
   (5, (fun c => (c.arch == Arch.x86_64)), 2, Backend.sse),
   (5, (fun c => (c.arch == Arch.aarch64)), 3, Backend.neon),
   (5, (fun c => (c.arch == Arch.wasmSimd)), 4, Backend.wasm),
   (6, (fun c => !((c.arch == Arch.wasmSimd) || (c.arch == Arch.aarch64))), 0, Backend.portable),
   (6, (fun c => (c.arch == Arch.x86_64)), 1, Backend.avx),
   (6, (fun c => (c.arch == Arch.x86_64)), 2, Backend.sse),
   (6, (fun c => (c.arch == Arch.aarch64)), 3, Backend.neon),
   (6, (fun c => (c.arch == Arch.wasmSimd)), 4, Backend.wasm)]

/-- the ladder translated from the source is the model's, for every configuration and CPU -/
theorem selectNew_eq (c : Cfg) (cpu : Cpu) : selectNew c cpu = some (HH.selectNew c cpu) := by
  obtain ⟨arch, std, s, a⟩ := c
  obtain ⟨cs, ca⟩ := cpu
  cases arch
  case x86_64 => cases std <;> cases s <;> cases a <;> cases cs <;> cases ca <;> decide +kernel
  -- off x86_64 the architecture alone decides (`rfl`); an architecture where it does not is swept as well
  all_goals first | rfl | (cases std <;> cases s <;> cases a <;> cases cs <;> cases ca <;> decide +kernel)

/-- the ladder translated from the source is the model's, for every configuration and CPU -/
theorem selectRestore_eq (c : Cfg) (cpu : Cpu) : selectRestore c cpu = some (HH.selectRestore c cpu) := by
  obtain ⟨arch, std, s, a⟩ := c
  obtain ⟨cs, ca⟩ := cpu
  cases arch
  case x86_64 => cases std <;> cases s <;> cases a <;> cases cs <;> cases ca <;> decide +kernel
  -- off x86_64 the architecture alone decides (`rfl`); an architecture where it does not is swept as well
  all_goals first | rfl | (cases std <;> cases s <;> cases a <;> cases cs <;> cases ca <;> decide +kernel)

/-- every ladder arm initialises the union member with that member's own hasher type and writes the model's tag for it -/
theorem ctor_arms_ok : (ctorArms.all fun a => a.2.2.1 == a.2.2.2 && a.2.2.1.tag == a.2.1) = true := by decide

/-- every dispatch arm `t => .. self.inner.m ..` reads the member whose model tag is `t` -/
theorem dispatch_arms_ok : (dispatchArms.all fun a => a.2.2.2.tag == a.2.2.1) = true := by decide

/-- each union member holds the hasher type of its name -/
theorem union_typed : (unionMembers.all fun m => m.1 == m.2.2) = true := by decide

/-- an arm that exists in a configuration reads a union member that exists in that configuration -/
theorem dispatch_member_exists (c : Cfg) : (dispatchArms.all fun a => !a.2.1 c || unionMembers.any fun m => m.1 == a.2.2.2 && m.2.1 c) = true := by
  obtain ⟨arch, std, s, a⟩ := c
  -- the arms are enabled by the architecture alone
  cases arch <;> first | rfl | (cases std <;> cases s <;> cases a <;> decide)

/-- tag validity, from the source: at every dispatch site there is an arm, existing in the configuration, for the tag of the
back end the ladder selects - so the `unreachable_unchecked` arm is never taken for a hasher built by `new` -/
theorem dispatch_total_new (c : Cfg) (cpu : Cpu) :
    ((List.range dispatchSites).all fun i => dispatchArms.any fun a => a.1 == i && a.2.1 c && a.2.2.1 == (HH.selectNew c cpu).tag) = true := by
  obtain ⟨arch, std, s, a⟩ := c
  obtain ⟨cs, ca⟩ := cpu
  cases arch
  case x86_64 => cases std <;> cases s <;> cases a <;> cases cs <;> cases ca <;> decide +kernel
  -- off x86_64 the architecture alone decides (`rfl`); an architecture where it does not is swept as well
  all_goals first | rfl | (cases std <;> cases s <;> cases a <;> cases cs <;> cases ca <;> decide +kernel)

theorem dispatch_total_restore (c : Cfg) (cpu : Cpu) :
    ((List.range dispatchSites).all fun i => dispatchArms.any fun a => a.1 == i && a.2.1 c && a.2.2.1 == (HH.selectRestore c cpu).tag) = true :=
  (rfl : HH.selectRestore c cpu = HH.selectNew c cpu) ▸ dispatch_total_new c cpu

end HH.Gen.Ladder
